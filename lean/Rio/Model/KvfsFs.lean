import Rio.Model.Kvfs
/-
  M8b — the kvfs write path over a *shared* staging namespace.

  `Rio/Model/Kvfs.lean` gives every writer a staging file of its own: that is the consequence of
  "staging names are fresh", not something the code gets for free.  This model drops the assumption.  The
  warehouse directory is a little file system:

    * `files`   : inode -> content (cells; a cell that was skipped over by a write at an offset past the end
                  is a hole, `none`),
    * `staging` : staging name -> inode   (the `.tmp.upload.<…>` directory entries),
    * `finals`  : final address -> inode  (`rename(2)` moves the *inode the name points at*),

  and every writer carries the staging **name** it computed in `OpenWriter`, the inode its descriptor is open
  on, and its own file offset.  `excl = true` is `O_CREATE|O_WRONLY|O_EXCL` (the code); `excl = false` is
  `O_CREATE|O_WRONLY|O_TRUNC`, a variant in which a second writer with the same name shares and truncates the
  first one's inode.  The deferred `wc.Close()` removes whatever is called by the writer's staging name *now*.

  One step = one instrumented step of kvfs.go (OpenWriter / Write / Commit: Close, Mkdir, Rename / Close).
-/
namespace Rio

abbrev Cell := Option Chunk

structure FWriter where
  key : WareId                 -- final address the ware will be committed to
  name : Nat                   -- staging file name (".tmp.upload." ++ guid), as a number
  chunks : List Chunk          -- the complete stream
  pc : WPC
  ino : Nat                    -- the inode the descriptor is open on (meaningful once opened)
  off : Nat                    -- file offset of the descriptor, in cells
deriving Inhabited

structure FsState where
  nextIno : Nat
  files : Nat → List Cell
  staging : Nat → Option Nat
  finals : WareId → Option Nat
  writers : List FWriter

def upd {α β : Type} [DecidableEq α] (f : α → β) (a : α) (b : β) : α → β := fun x => if x = a then b else f x

@[simp] theorem upd_same {α β : Type} [DecidableEq α] (f : α → β) (a : α) (b : β) : upd f a b a = b := by
  simp [upd]

theorem upd_other {α β : Type} [DecidableEq α] {f : α → β} {a x : α} {b : β} (h : x ≠ a) : upd f a b x = f x := by
  simp [upd, h]

/-- a write of one cell at offset `off` (past the end: the gap reads as holes) -/
def writeAt (l : List Cell) (off : Nat) (c : Chunk) : List Cell :=
  if off < l.length then l.set off (some c) else l ++ List.replicate (off - l.length) none ++ [some c]

def setFW (s : FsState) (i : Nat) (w : FWriter) : FsState := { s with writers := s.writers.set i w }

def firstPc (w : FWriter) : WPC := if w.chunks.length = 0 then .closing else .writing 0
def afterChunkF (w : FWriter) (k : Nat) : WPC := if k + 1 < w.chunks.length then .writing (k + 1) else .closing

/-- one step of writer `i`; `f` is the (demonically chosen) outcome of the system call of that step -/
def fstep (excl : Bool) (s : FsState) (i : Nat) (f : Fault) : FsState :=
  match s.writers[i]? with
  | none => s
  | some w =>
    match w.pc with
    | .done _ => s
    | .opening =>
      if f = .fail then setFW s i { w with pc := .done (some .whUnwritable) }
      else
        match s.staging w.name with
        | some j =>
          if excl then setFW s i { w with pc := .done (some .whUnwritable) }     -- EEXIST; nothing to clean up
          else setFW { s with files := upd s.files j [] } i { w with pc := firstPc w, ino := j, off := 0 }  -- O_TRUNC
        | none =>
          setFW { s with nextIno := s.nextIno + 1, files := upd s.files s.nextIno [],
                         staging := upd s.staging w.name (some s.nextIno) } i
            { w with pc := firstPc w, ino := s.nextIno, off := 0 }
    | .writing k =>
      match w.chunks[k]? with
      | none => setFW s i { w with pc := .closing }
      | some c =>
        if f = .fail then setFW s i { w with pc := .cleanup (some .whUnwritable) }
        else setFW { s with files := upd s.files w.ino (writeAt (s.files w.ino) w.off c) } i
               { w with pc := afterChunkF w k, off := w.off + 1 }
    | .closing =>
      if f = .fail then setFW s i { w with pc := .cleanup (some .whUnwritable) }
      else setFW s i { w with pc := .mkdirs }
    | .mkdirs =>
      if f = .fail then setFW s i { w with pc := .cleanup (some .whUnwritable) }
      else setFW s i { w with pc := .moving }
    | .moving =>
      if f = .fail then setFW s i { w with pc := .cleanup (some .whUnwritable) }
      else
        match s.staging w.name with
        | none => setFW s i { w with pc := .cleanup (some .whUnwritable) }        -- ENOENT
        | some j =>
          setFW { s with finals := upd s.finals w.key (some j), staging := upd s.staging w.name none } i
            { w with pc := .cleanup none }
    | .cleanup r =>
      -- deferred wc.Close(): close, then remove whatever bears the staging name now
      setFW { s with staging := upd s.staging w.name none } i { w with pc := .done r }

def frun (excl : Bool) (s : FsState) (sched : List (Nat × Fault)) : FsState :=
  sched.foldl (fun s x => fstep excl s x.1 x.2) s

def mkFWriter (key : WareId) (name : Nat) (chunks : List Chunk) : FWriter :=
  { key := key, name := name, chunks := chunks, pc := .opening, ino := 0, off := 0 }

/-- an empty warehouse with the given writers about to start -/
def fsInit (ws : List FWriter) : FsState :=
  { nextIno := 0, files := fun _ => [], staging := fun _ => none, finals := fun _ => none, writers := ws }

/-- what a reader finds at a final address -/
def readFinal (s : FsState) (k : WareId) : Option (List Cell) := (s.finals k).map s.files

end Rio
