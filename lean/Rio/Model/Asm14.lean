import Rio.Model.Path
/-
  M10 (C14) — the input-validation and ordering part of `stitch.Assembler.Run`:
  inputs are sorted by the string form of their absolute path; an input is refused when it lies
  under (or at) the path of a mount input that sorts before it.
-/
namespace Rio

structure AsmInput where
  path : Bytes          -- `part.Path.String()`: cleaned absolute path ("/" for the root)
  isMount : Bool
  tag : Nat             -- which ware / host dir (opaque)
deriving DecidableEq, Repr, Inhabited

/-- `isUnderPath(p, base)` as fixed: whole segments -/
def isUnderPath (p base : Bytes) : Bool :=
  base = [slash] || p = base || hasPrefix p (base ++ [slash])

/-- the test as it was before the `fix:` -/
def isUnderPathOld (p base : Bytes) : Bool := hasPrefix p base

/-- the mount-containment loop over the sorted inputs: index of the first refused input, if any -/
def mountCheck : List AsmInput → (mounts : List Bytes) → Option AsmInput
  | [], _ => none
  | x :: xs, mounts =>
    if mounts.any (fun m => isUnderPath x.path m) then some x
    else mountCheck xs (if x.isMount then x.path :: mounts else mounts)

def sortInputs (xs : List AsmInput) : List AsmInput := sortBy (·.path) xs

/-- the duplicate-path loop over the sorted inputs (since the `fix:`): the first input that sits at the path of its
    predecessor -/
def dupCheck : List AsmInput → Option AsmInput
  | a :: b :: rest => if a.path = b.path then some b else dupCheck (b :: rest)
  | _ => none

inductive AsmVerdict
  | duplicate (x : AsmInput)      -- rio-assembly-invalid: more than one input at a path
  | underMount (x : AsmInput)     -- rio-assembly-invalid: an input under a mount
  | proceed (order : List AsmInput)
deriving DecidableEq, Repr

/-- `Run`'s validation as a whole: sort, duplicate check, mount rule -/
def asmVerdict (xs : List AsmInput) : AsmVerdict :=
  let s := sortInputs xs
  match dupCheck s with
  | some d => .duplicate d
  | none => match mountCheck s [] with
    | some x => .underMount x
    | none => .proceed s

/-- the order in which `Run` processes the inputs and whether the mount rule refuses the assembly -/
def asmPlan (xs : List AsmInput) : List AsmInput × Option AsmInput :=
  let s := sortInputs xs
  (s, mountCheck s [])

end Rio
