import Rio.Props.C09
import Rio.Props.C11
/-!
# C10 — Every placement route delivers exactly the ware's fileset

Composition of the cache protocol (C09: a shelf holds exactly the complete fileset it is named after) with
the placement model (a fresh placement shows exactly the shelf).  Attribute-level faithfulness of the copy
(directory mtimes included) and the parent-mtime repair are proved for a model of the mtime rule in
`Rio/Props/C10Mtimes.lean` and `Rio/Props/C10Copy.lean` and checked on the real filesystem by the `rt` and
`place` streams; the kernel's bind / overlay visibility is the model's assumption.
-/
namespace Rio

/-- what a destination shows right after `cache.place` put shelf content `c` there by route `k` -/
def placedView (c : Content_) (k : PlKind) : Content_ :=
  let s := pstep ⟨c, []⟩ (.place k)
  match s.pls.getLast? with
  | some p => pview s p
  | none => c

/-- every placer shows exactly the shelf -/
theorem C10_place_faithful (c : Content_) (k : PlKind) : placedView c k = c :=
  pview_fresh ⟨c, []⟩ k _ rfl

/-- **Routes agree**: copy, mount (whatever the overlay placer dispatches to) and direct-on-a-warm-cache all show
    the same thing, namely the shelf — so they agree with each other, whatever the type of the ware's root. -/
theorem C10_routes (c : Content_) (root : Kind) (m₁ m₂ : Mode) (k₁ k₂ : PlKind)
    (h₁ : cachePlaceFor m₁ root = some k₁) (h₂ : cachePlaceFor m₂ root = some k₂) :
    placedView c k₁ = placedView c k₂ := by
  rw [C10_place_faithful, C10_place_faithful]

/-- **Whatever happened before**: in every reachable state of the shared cache (any processes, any schedule, any
    crashes: C09), a process that reaches the placement step finds a shelf holding exactly the complete fileset
    it is about to report. -/
theorem C10_history_independent (ps : List Proc) (shelves : List WareId) (sched : List Nat)
    (hps : ∀ p ∈ ps, p.pc = .atLookup ∧ p.tmp = none) :
    ∀ kc ∈ (runSchedule (initState ps shelves) sched).shelves, kc.2 = .complete kc.1 :=
  C09_inv ps shelves sched hps

/-- T-fact tie: which placer each placement mode uses (`none` places nothing). -/
theorem C10_tie : Generated.cachePlaceSwitch = [(["rio.Placement_None"], "return nil"), (["rio.Placement_Direct"], "CopyPlacer"),
      (["rio.Placement_Copy"], "CopyPlacer"), (["rio.Placement_Mount"], "GetMountPlacer"), (["default"], "return nil")] := rfl
-- "return nil" is the extractor's word for a case that calls no placer and does not panic: the default case returns a
-- usage error (it panicked before `fix:` 030c09c)

end Rio
