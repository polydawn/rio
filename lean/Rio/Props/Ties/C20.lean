import Rio.Proofs.SourceTable
/-! GENERATED by bin/pin_sources — the pinned source digests for C20.  Do not edit by hand. -/
namespace Rio

/-- the functions whose source text the models behind C20 mirror -/
def C20_sources : List String := ["fsOp:.ScanFile", "transmat/tar:.packTar", "transmat/zip:.packZip", "transmat/util:.CreateMirror", "transmat/mixins/buffer:.SectionReader", "warehouse/impl/kvfs:.NewController", "warehouse/impl/kvfs:Controller.OpenReader", "warehouse/impl/git:Controller.Contains", "warehouse/impl/git:Controller.setCacheStorage"]

/-- **T-fact source tie for C20**: the digest of the current source text of each of these functions (regenerated from
    /repo on every run) is the pinned one.  Any edit of one of them breaks this theorem; the check then searches the
    model and the implementation for a failing input. -/
theorem C20_source_tie :
    Generated.modelledFuncs.filter (fun p => C20_sources.contains p.1) = [
    ("fsOp:.ScanFile", "d4d1754009b85150"),
    ("transmat/tar:.packTar", "3944eda7b5f97fd0"),
    ("transmat/zip:.packZip", "9feaba32a875d69f"),
    ("transmat/util:.CreateMirror", "d5e7c55b64f3ac3f"),
    ("transmat/mixins/buffer:.SectionReader", "0bee1a58250a8ee6"),
    ("warehouse/impl/kvfs:.NewController", "d4fecbdd21ec216b"),
    ("warehouse/impl/kvfs:Controller.OpenReader", "a10d8011d4d0ce55"),
    ("warehouse/impl/git:Controller.Contains", "e6076c00125e0cd0"),
    ("warehouse/impl/git:Controller.setCacheStorage", "72bd529d9deb6ed1")] :=
  filter_keys_of_sublist modelledFuncs_names_nodup rfl (sublist_of_rows (I := [26, 43, 55, 58, 65, 67, 68, 92, 93]) (by decide) rfl)

end Rio
