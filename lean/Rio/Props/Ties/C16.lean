import Rio.Proofs.SourceTable
/-! GENERATED by bin/pin_sources — the pinned source digests for C16.  Do not edit by hand. -/
namespace Rio

/-- the functions whose source text the models behind C16 mirror -/
def C16_sources : List String := ["transmat/util:.PickReader", "warehouse/util:.ChunkifyHash", "warehouse/impl/kvfs:.NewController", "warehouse/impl/kvfs:Controller.OpenReader", "warehouse/impl/kvhttp:Controller.OpenReader"]

/-- **T-fact source tie for C16**: the digest of the current source text of each of these functions (regenerated from
    /repo on every run) is the pinned one.  Any edit of one of them breaks this theorem; the check then searches the
    model and the implementation for a failing input. -/
theorem C16_source_tie :
    Generated.modelledFuncs.filter (fun p => C16_sources.contains p.1) = [
    ("transmat/util:.PickReader", "9027c6e76357d198"),
    ("warehouse/util:.ChunkifyHash", "7bf62adfbf666049"),
    ("warehouse/impl/kvfs:.NewController", "d4fecbdd21ec216b"),
    ("warehouse/impl/kvfs:Controller.OpenReader", "a10d8011d4d0ce55"),
    ("warehouse/impl/kvhttp:Controller.OpenReader", "60301bad1a62837b")] :=
  filter_keys_of_sublist modelledFuncs_names_nodup rfl (sublist_of_rows (I := [56, 59, 67, 68, 73]) (by decide) rfl)

end Rio
