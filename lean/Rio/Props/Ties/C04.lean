import Rio.Proofs.SourceTable
/-! GENERATED by bin/pin_sources — the pinned source digests for C04.  Do not edit by hand. -/
namespace Rio

/-- the functions whose source text the models behind C04 mirror -/
def C04_sources : List String := ["transmat/mixins/fshash:.HashBucket", "transmat/mixins/fshash:.marshalMetadata", "transmat/mixins/fshash:MemoryBucket.AddRecord", "transmat/mixins/fshash:MemoryBucket.UpdateRecord", "transmat/mixins/fshash:MemoryBucket.HasRecord", "transmat/mixins/fshash:MemoryBucket.Iterator", "transmat/mixins/fshash:MemoryBucket.Length", "transmat/mixins/fshash:memoryBucketIterator.NextChild", "transmat/tar:.TarHdrToMetadata", "transmat/tar:.unpackTar", "transmat/zip:.ZipHdrToMetadata", "transmat/zip:.unpackZip"]

/-- **T-fact source tie for C04**: the digest of the current source text of each of these functions (regenerated from
    /repo on every run) is the pinned one.  Any edit of one of them breaks this theorem; the check then searches the
    model and the implementation for a failing input. -/
theorem C04_source_tie :
    Generated.modelledFuncs.filter (fun p => C04_sources.contains p.1) = [
    ("transmat/mixins/fshash:.HashBucket", "628f48fbfe28dc40"),
    ("transmat/mixins/fshash:.marshalMetadata", "ef39fff3e7c4b1f5"),
    ("transmat/mixins/fshash:MemoryBucket.AddRecord", "5b695816a5eecb82"),
    ("transmat/mixins/fshash:MemoryBucket.UpdateRecord", "5e2e2089f611793a"),
    ("transmat/mixins/fshash:MemoryBucket.HasRecord", "f0f2e475171c81b7"),
    ("transmat/mixins/fshash:MemoryBucket.Iterator", "138c31d560c93774"),
    ("transmat/mixins/fshash:MemoryBucket.Length", "53530cedb59c8ad5"),
    ("transmat/mixins/fshash:memoryBucketIterator.NextChild", "6dfddddc7384fd07"),
    ("transmat/tar:.TarHdrToMetadata", "802d5fea015d76e4"),
    ("transmat/tar:.unpackTar", "261a9838a1b9957e"),
    ("transmat/zip:.ZipHdrToMetadata", "9933cd38761e683c"),
    ("transmat/zip:.unpackZip", "6185d4b5a59d2604")] :=
  filter_keys_of_sublist modelledFuncs_names_nodup rfl (sublist_of_rows (I := [32, 33, 34, 35, 36, 37, 38, 39, 40, 42, 46, 54]) (by decide) rfl)

end Rio
