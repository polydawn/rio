import Rio.Proofs.SourceTable
/-! GENERATED by bin/pin_sources — the pinned source digests for C06.  Do not edit by hand. -/
namespace Rio

/-- the functions whose source text the models behind C06 mirror -/
def C06_sources : List String := ["fs/osfs:osFS.realpath", "fs/osfs:osFS._realpath", "fs/osfs:osFS.resolveLink", "fs/osfs:osFS.OpenFile", "fsOp:.PlaceFile", "fsOp:.ScanFile", "fsOp:.MkdirAll", "fsOp:.RemoveDirContent", "fsOp:.RepairMtime", "transmat/tar:.unpackTar", "transmat/zip:.unpackZip", "stitch:Assembler.Run", "stitch/placer:.mkDest"]

/-- **T-fact source tie for C06**: the digest of the current source text of each of these functions (regenerated from
    /repo on every run) is the pinned one.  Any edit of one of them breaks this theorem; the check then searches the
    model and the implementation for a failing input. -/
theorem C06_source_tie :
    Generated.modelledFuncs.filter (fun p => C06_sources.contains p.1) = [
    ("fs/osfs:osFS.realpath", "12fd967c559e9e5b"),
    ("fs/osfs:osFS._realpath", "44f787cd3f825632"),
    ("fs/osfs:osFS.resolveLink", "58a5470baa0bf5c7"),
    ("fs/osfs:osFS.OpenFile", "8568d7456187af84"),
    ("fsOp:.PlaceFile", "b1dacf916c88de86"),
    ("fsOp:.ScanFile", "d4d1754009b85150"),
    ("fsOp:.MkdirAll", "7e08a2e96a409c06"),
    ("fsOp:.RemoveDirContent", "868a7b875339d1e6"),
    ("fsOp:.RepairMtime", "5517b8726a9fb2e0"),
    ("transmat/tar:.unpackTar", "261a9838a1b9957e"),
    ("transmat/zip:.unpackZip", "6185d4b5a59d2604"),
    ("stitch:Assembler.Run", "b84a31aedffd16b7"),
    ("stitch/placer:.mkDest", "9432e74349f3f39b")] :=
  filter_keys_of_sublist modelledFuncs_names_nodup rfl (sublist_of_rows (I := [14, 15, 16, 18, 25, 26, 27, 28, 29, 42, 54, 74, 82]) (by decide) rfl)

end Rio
