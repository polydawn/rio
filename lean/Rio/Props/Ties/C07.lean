import Rio.Proofs.SourceTable
/-! GENERATED by bin/pin_sources — the pinned source digests for C07.  Do not edit by hand. -/
namespace Rio

/-- the functions whose source text the models behind C07 mirror -/
def C07_sources : List String := ["fs:RelPath.GoesUp", "fs/osfs:osFS.realpath", "fs/osfs:osFS._realpath", "fs/osfs:osFS.resolveLink", "fs/osfs:osFS.ResolveLink", "fs/osfs:osFS.OpenFile", "fs/osfs:osFS.LStat", "fs/osfs:osFS.Stat", "fs/osfs:osFS.convertFileinfo", "fs/osfs:osFS.Readlink"]

/-- **T-fact source tie for C07**: the digest of the current source text of each of these functions (regenerated from
    /repo on every run) is the pinned one.  Any edit of one of them breaks this theorem; the check then searches the
    model and the implementation for a failing input. -/
theorem C07_source_tie :
    Generated.modelledFuncs.filter (fun p => C07_sources.contains p.1) = [
    ("fs:RelPath.GoesUp", "937951258ad18055"),
    ("fs/osfs:osFS.realpath", "12fd967c559e9e5b"),
    ("fs/osfs:osFS._realpath", "44f787cd3f825632"),
    ("fs/osfs:osFS.resolveLink", "58a5470baa0bf5c7"),
    ("fs/osfs:osFS.ResolveLink", "3871e0dddbaaa4a3"),
    ("fs/osfs:osFS.OpenFile", "8568d7456187af84"),
    ("fs/osfs:osFS.LStat", "426de937194297ca"),
    ("fs/osfs:osFS.Stat", "586acbc6f4be8f9e"),
    ("fs/osfs:osFS.convertFileinfo", "5950ef99890278a3"),
    ("fs/osfs:osFS.Readlink", "fc7208a66dbb3dde")] :=
  filter_keys_of_sublist modelledFuncs_names_nodup rfl (sublist_of_rows (I := [6, 14, 15, 16, 17, 18, 19, 20, 21, 22]) (by decide) rfl)

end Rio
