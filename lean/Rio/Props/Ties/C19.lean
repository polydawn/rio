import Rio.Proofs.SourceTable
/-! GENERATED by bin/pin_sources — the pinned source digests for C19.  Do not edit by hand. -/
namespace Rio

/-- the functions whose source text the models behind C19 mirror -/
def C19_sources : List String := ["transmat/git:.unpack", "transmat/git:.unpackOneRepo", "transmat/git:.pick", "warehouse/impl/git:Controller.Contains", "warehouse/impl/git:Controller.setCacheStorage"]

/-- **T-fact source tie for C19**: the digest of the current source text of each of these functions (regenerated from
    /repo on every run) is the pinned one.  Any edit of one of them breaks this theorem; the check then searches the
    model and the implementation for a failing input. -/
theorem C19_source_tie :
    Generated.modelledFuncs.filter (fun p => C19_sources.contains p.1) = [
    ("transmat/git:.unpack", "f492c808e267b46c"),
    ("transmat/git:.unpackOneRepo", "7e7ba1118e45b2f2"),
    ("transmat/git:.pick", "58a6c48f1d3f8ff1"),
    ("warehouse/impl/git:Controller.Contains", "e6076c00125e0cd0"),
    ("warehouse/impl/git:Controller.setCacheStorage", "72bd529d9deb6ed1")] :=
  filter_keys_of_sublist modelledFuncs_names_nodup rfl (sublist_of_rows (I := [89, 90, 91, 92, 93]) (by decide) rfl)

end Rio
