import Rio.Proofs.SourceTable
/-! GENERATED by bin/pin_sources — the pinned source digests for C08.  Do not edit by hand. -/
namespace Rio

/-- the functions whose source text the models behind C08 mirror -/
def C08_sources : List String := ["transmat/tar:.packTar", "transmat/zip:.packZip", "transmat/util:.CreateMirror", "transmat/util:flippingReader.Read", "warehouse/impl/kvfs:.NewController", "warehouse/impl/kvfs:Controller.OpenReader", "warehouse/impl/kvfs:Controller.OpenWriter", "warehouse/impl/kvfs:WriteController.Write", "warehouse/impl/kvfs:WriteController.Commit", "warehouse/impl/kvfs:WriteController.Close"]

/-- **T-fact source tie for C08**: the digest of the current source text of each of these functions (regenerated from
    /repo on every run) is the pinned one.  Any edit of one of them breaks this theorem; the check then searches the
    model and the implementation for a failing input. -/
theorem C08_source_tie :
    Generated.modelledFuncs.filter (fun p => C08_sources.contains p.1) = [
    ("transmat/tar:.packTar", "3944eda7b5f97fd0"),
    ("transmat/zip:.packZip", "9feaba32a875d69f"),
    ("transmat/util:.CreateMirror", "d5e7c55b64f3ac3f"),
    ("transmat/util:flippingReader.Read", "2235682592bdaca3"),
    ("warehouse/impl/kvfs:.NewController", "d4fecbdd21ec216b"),
    ("warehouse/impl/kvfs:Controller.OpenReader", "a10d8011d4d0ce55"),
    ("warehouse/impl/kvfs:Controller.OpenWriter", "dff4096055f26661"),
    ("warehouse/impl/kvfs:WriteController.Write", "ee160aa5530ef980"),
    ("warehouse/impl/kvfs:WriteController.Commit", "3ce1dd39bf3c6c3d"),
    ("warehouse/impl/kvfs:WriteController.Close", "aa356f76acdec387")] :=
  filter_keys_of_sublist modelledFuncs_names_nodup rfl (sublist_of_rows (I := [43, 55, 58, 60, 67, 68, 69, 70, 71, 72]) (by decide) rfl)

end Rio
