import Rio.Proofs.SourceTable
/-! GENERATED by bin/pin_sources — the pinned source digests for C18.  Do not edit by hand. -/
namespace Rio

/-- the functions whose source text the models behind C18 mirror -/
def C18_sources : List String := ["fs:.MustRelPath", "fs:.ParseAbsolutePath", "fs:RelPath.String", "fs:RelPath.Dir", "fs:RelPath.Last", "fs:RelPath.Join", "fs:RelPath.GoesUp", "fs:RelPath.Split", "fs:RelPath.SplitParent", "fs:AbsolutePath.String", "fs:AbsolutePath.Dir", "fs:AbsolutePath.Last", "fs:AbsolutePath.Join", "fs:AbsolutePath.CoerceRelative", "fs/osfs:osFS.realpath", "fs/osfs:osFS._realpath", "fs/osfs:osFS.resolveLink"]

/-- **T-fact source tie for C18**: the digest of the current source text of each of these functions (regenerated from
    /repo on every run) is the pinned one.  Any edit of one of them breaks this theorem; the check then searches the
    model and the implementation for a failing input. -/
theorem C18_source_tie :
    Generated.modelledFuncs.filter (fun p => C18_sources.contains p.1) = [
    ("fs:.MustRelPath", "245832a95378313e"),
    ("fs:.ParseAbsolutePath", "e7c44db0c44963ec"),
    ("fs:RelPath.String", "a7171b70d08f6dc2"),
    ("fs:RelPath.Dir", "dfba87a500a582e5"),
    ("fs:RelPath.Last", "cb664004a965da66"),
    ("fs:RelPath.Join", "d990d55e1f9a4331"),
    ("fs:RelPath.GoesUp", "937951258ad18055"),
    ("fs:RelPath.Split", "83f2151d854cfcd7"),
    ("fs:RelPath.SplitParent", "9dae717883beca40"),
    ("fs:AbsolutePath.String", "3c99eb5a27add6c8"),
    ("fs:AbsolutePath.Dir", "9c4e0b3b4769a401"),
    ("fs:AbsolutePath.Last", "1750f5bccb175ff1"),
    ("fs:AbsolutePath.Join", "2759842c8c926ecf"),
    ("fs:AbsolutePath.CoerceRelative", "dfdbb86e3090a3a2"),
    ("fs/osfs:osFS.realpath", "12fd967c559e9e5b"),
    ("fs/osfs:osFS._realpath", "44f787cd3f825632"),
    ("fs/osfs:osFS.resolveLink", "58a5470baa0bf5c7")] :=
  filter_keys_of_sublist modelledFuncs_names_nodup rfl (sublist_of_rows (I := [0, 1, 2, 3, 4, 5, 6, 7, 8, 9, 10, 11, 12, 13, 14, 15, 16]) (by decide) rfl)

end Rio
