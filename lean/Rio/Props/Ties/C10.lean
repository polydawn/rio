import Rio.Proofs.SourceTable
/-! GENERATED by bin/pin_sources — the pinned source digests for C10.  Do not edit by hand. -/
namespace Rio

/-- the functions whose source text the models behind C10 mirror -/
def C10_sources : List String := ["fsOp:.PlaceFile", "fsOp:.RepairMtime", "transmat/mixins/cache:cache.Unpack", "transmat/mixins/cache:cache.populate", "transmat/mixins/cache:cache.place", "cache:.ShelfFor", "stitch/placer:.CopyPlacer", "stitch/placer:.BindPlacer", "stitch/placer:.NewOverlayPlacer", "stitch/placer:.mkDest"]

/-- **T-fact source tie for C10**: the digest of the current source text of each of these functions (regenerated from
    /repo on every run) is the pinned one.  Any edit of one of them breaks this theorem; the check then searches the
    model and the implementation for a failing input. -/
theorem C10_source_tie :
    Generated.modelledFuncs.filter (fun p => C10_sources.contains p.1) = [
    ("fsOp:.PlaceFile", "b1dacf916c88de86"),
    ("fsOp:.RepairMtime", "5517b8726a9fb2e0"),
    ("transmat/mixins/cache:cache.Unpack", "61afe9cc4ecaccba"),
    ("transmat/mixins/cache:cache.populate", "fe0d3b17bdfd07d6"),
    ("transmat/mixins/cache:cache.place", "fac8ab8f7aca00c3"),
    ("cache:.ShelfFor", "2f6e49d4d827b0bc"),
    ("stitch/placer:.CopyPlacer", "5d2355a722c88cd9"),
    ("stitch/placer:.BindPlacer", "aec1590406a9184d"),
    ("stitch/placer:.NewOverlayPlacer", "5d267c6073997430"),
    ("stitch/placer:.mkDest", "9432e74349f3f39b")] :=
  filter_keys_of_sublist modelledFuncs_names_nodup rfl (sublist_of_rows (I := [25, 29, 61, 62, 63, 64, 79, 80, 81, 82]) (by decide) rfl)

end Rio
