import Rio.Proofs.SourceTable
/-! GENERATED by bin/pin_sources — the pinned source digests for C14.  Do not edit by hand. -/
namespace Rio

/-- the functions whose source text the models behind C14 mirror -/
def C14_sources : List String := ["stitch:Assembler.Run", "stitch:.isUnderPath", "stitch/placer:.mkDest"]

/-- **T-fact source tie for C14**: the digest of the current source text of each of these functions (regenerated from
    /repo on every run) is the pinned one.  Any edit of one of them breaks this theorem; the check then searches the
    model and the implementation for a failing input. -/
theorem C14_source_tie :
    Generated.modelledFuncs.filter (fun p => C14_sources.contains p.1) = [
    ("stitch:Assembler.Run", "b84a31aedffd16b7"),
    ("stitch:.isUnderPath", "242ae0629dd24e20"),
    ("stitch/placer:.mkDest", "9432e74349f3f39b")] :=
  filter_keys_of_sublist modelledFuncs_names_nodup rfl (sublist_of_rows (I := [74, 77, 82]) (by decide) rfl)

end Rio
