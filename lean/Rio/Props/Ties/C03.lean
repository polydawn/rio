import Rio.Proofs.SourceTable
/-! GENERATED by bin/pin_sources — the pinned source digests for C03.  Do not edit by hand. -/
namespace Rio

/-- the functions whose source text the models behind C03 mirror -/
def C03_sources : List String := ["transmat/tar:.TarHdrToMetadata", "transmat/tar:.unpackTar", "transmat/zip:.ZipHdrToMetadata", "transmat/zip:.parseZipExtraHeader", "transmat/zip:.parseUnix3Header", "transmat/zip:.parseUnix2Header", "transmat/zip:.zipFileOwnership", "transmat/zip:.unpackZip", "transmat/util:.wrapUnpacker", "transmat/util:.CreateMirror", "transmat/util:flippingReader.Read", "transmat/mixins/cache:cache.Unpack", "transmat/mixins/cache:cache.populate", "transmat/mixins/cache:cache.place"]

/-- **T-fact source tie for C03**: the digest of the current source text of each of these functions (regenerated from
    /repo on every run) is the pinned one.  Any edit of one of them breaks this theorem; the check then searches the
    model and the implementation for a failing input. -/
theorem C03_source_tie :
    Generated.modelledFuncs.filter (fun p => C03_sources.contains p.1) = [
    ("transmat/tar:.TarHdrToMetadata", "802d5fea015d76e4"),
    ("transmat/tar:.unpackTar", "261a9838a1b9957e"),
    ("transmat/zip:.ZipHdrToMetadata", "9933cd38761e683c"),
    ("transmat/zip:.parseZipExtraHeader", "d6b39d52ef8f04a0"),
    ("transmat/zip:.parseUnix3Header", "28e35c8a66f78347"),
    ("transmat/zip:.parseUnix2Header", "64ce4a6185f24744"),
    ("transmat/zip:.zipFileOwnership", "15170103bc96797f"),
    ("transmat/zip:.unpackZip", "6185d4b5a59d2604"),
    ("transmat/util:.wrapUnpacker", "daa38c3f0b1d9ad7"),
    ("transmat/util:.CreateMirror", "d5e7c55b64f3ac3f"),
    ("transmat/util:flippingReader.Read", "2235682592bdaca3"),
    ("transmat/mixins/cache:cache.Unpack", "61afe9cc4ecaccba"),
    ("transmat/mixins/cache:cache.populate", "fe0d3b17bdfd07d6"),
    ("transmat/mixins/cache:cache.place", "fac8ab8f7aca00c3")] :=
  filter_keys_of_sublist modelledFuncs_names_nodup rfl (sublist_of_rows (I := [40, 42, 46, 48, 49, 50, 51, 54, 57, 58, 60, 61, 62, 63]) (by decide) rfl)

end Rio
