import Rio.Proofs.SourceTable
/-! GENERATED by bin/pin_sources — the pinned source digests for C02.  Do not edit by hand. -/
namespace Rio

/-- the functions whose source text the models behind C02 mirror -/
def C02_sources : List String := ["fs/osfs:.devModesJoin", "fs/osfs:.devModesSplit", "fsOp:.PlaceFile", "fsOp:.ScanFile", "transmat/tar:.TarHdrToMetadata", "transmat/tar:.MetadataToTarHdr", "transmat/tar:.unpackTar", "transmat/tar:.packTar", "transmat/zip:.ZipHdrToMetadata", "transmat/zip:.MetadataToZipHdr", "transmat/zip:.parseZipExtraHeader", "transmat/zip:.parseUnix3Header", "transmat/zip:.parseUnix2Header", "transmat/zip:.zipFileOwnership", "transmat/zip:.zipUnix2ExtraHeader", "transmat/zip:.zipUnix3ExtraHeader", "transmat/zip:.unpackZip", "transmat/zip:.packZip"]

/-- **T-fact source tie for C02**: the digest of the current source text of each of these functions (regenerated from
    /repo on every run) is the pinned one.  Any edit of one of them breaks this theorem; the check then searches the
    model and the implementation for a failing input. -/
theorem C02_source_tie :
    Generated.modelledFuncs.filter (fun p => C02_sources.contains p.1) = [
    ("fs/osfs:.devModesJoin", "e1e48f6b6516a593"),
    ("fs/osfs:.devModesSplit", "ff93fa0df49b6265"),
    ("fsOp:.PlaceFile", "b1dacf916c88de86"),
    ("fsOp:.ScanFile", "d4d1754009b85150"),
    ("transmat/tar:.TarHdrToMetadata", "802d5fea015d76e4"),
    ("transmat/tar:.MetadataToTarHdr", "697ade756ac9d669"),
    ("transmat/tar:.unpackTar", "261a9838a1b9957e"),
    ("transmat/tar:.packTar", "3944eda7b5f97fd0"),
    ("transmat/zip:.ZipHdrToMetadata", "9933cd38761e683c"),
    ("transmat/zip:.MetadataToZipHdr", "d23a88c7141160e7"),
    ("transmat/zip:.parseZipExtraHeader", "d6b39d52ef8f04a0"),
    ("transmat/zip:.parseUnix3Header", "28e35c8a66f78347"),
    ("transmat/zip:.parseUnix2Header", "64ce4a6185f24744"),
    ("transmat/zip:.zipFileOwnership", "15170103bc96797f"),
    ("transmat/zip:.zipUnix2ExtraHeader", "da759cc52f2faca3"),
    ("transmat/zip:.zipUnix3ExtraHeader", "7133907f11ed0bc6"),
    ("transmat/zip:.unpackZip", "6185d4b5a59d2604"),
    ("transmat/zip:.packZip", "9feaba32a875d69f")] :=
  filter_keys_of_sublist modelledFuncs_names_nodup rfl (sublist_of_rows (I := [23, 24, 25, 26, 40, 41, 42, 43, 46, 47, 48, 49, 50, 51, 52, 53, 54, 55]) (by decide) rfl)

end Rio
