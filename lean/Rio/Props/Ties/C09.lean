import Rio.Proofs.SourceTable
/-! GENERATED by bin/pin_sources — the pinned source digests for C09.  Do not edit by hand. -/
namespace Rio

/-- the functions whose source text the models behind C09 mirror -/
def C09_sources : List String := ["transmat/mixins/cache:cache.Unpack", "transmat/mixins/cache:cache.populate", "transmat/mixins/cache:cache.place", "cache:.ShelfFor", "lib/guid:.New"]

/-- **T-fact source tie for C09**: the digest of the current source text of each of these functions (regenerated from
    /repo on every run) is the pinned one.  Any edit of one of them breaks this theorem; the check then searches the
    model and the implementation for a failing input. -/
theorem C09_source_tie :
    Generated.modelledFuncs.filter (fun p => C09_sources.contains p.1) = [
    ("transmat/mixins/cache:cache.Unpack", "61afe9cc4ecaccba"),
    ("transmat/mixins/cache:cache.populate", "fe0d3b17bdfd07d6"),
    ("transmat/mixins/cache:cache.place", "fac8ab8f7aca00c3"),
    ("cache:.ShelfFor", "2f6e49d4d827b0bc"),
    ("lib/guid:.New", "69af70e23480db68")] :=
  filter_keys_of_sublist modelledFuncs_names_nodup rfl (sublist_of_rows (I := [61, 62, 63, 64, 66]) (by decide) rfl)

end Rio
