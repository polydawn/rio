import Rio.Proofs.SourceTable
/-! GENERATED by bin/pin_sources — the pinned source digests for C15.  Do not edit by hand. -/
namespace Rio

/-- the functions whose source text the models behind C15 mirror -/
def C15_sources : List String := ["stitch:Assembler.Run", "stitch:housekeeping.Teardown", "stitch:housekeeping.append", "stitch/placer:copyJanitor.AlwaysTry", "stitch/placer:bindJanitor.AlwaysTry", "stitch/placer:overlayJanitor.AlwaysTry", "stitch/placer:copyJanitor.Teardown", "stitch/placer:bindJanitor.Teardown", "stitch/placer:overlayJanitor.Teardown"]

/-- **T-fact source tie for C15**: the digest of the current source text of each of these functions (regenerated from
    /repo on every run) is the pinned one.  Any edit of one of them breaks this theorem; the check then searches the
    model and the implementation for a failing input. -/
theorem C15_source_tie :
    Generated.modelledFuncs.filter (fun p => C15_sources.contains p.1) = [
    ("stitch:Assembler.Run", "b84a31aedffd16b7"),
    ("stitch:housekeeping.Teardown", "386ec2c6223f849c"),
    ("stitch:housekeeping.append", "e6d3877ddfba374a"),
    ("stitch/placer:copyJanitor.AlwaysTry", "3f2ce4556e03417a"),
    ("stitch/placer:bindJanitor.AlwaysTry", "fdf0fe3612467b04"),
    ("stitch/placer:overlayJanitor.AlwaysTry", "75deb520d785dc35"),
    ("stitch/placer:copyJanitor.Teardown", "0db774e5fd787284"),
    ("stitch/placer:bindJanitor.Teardown", "c5b621164b94b04f"),
    ("stitch/placer:overlayJanitor.Teardown", "8cf08f03b3fcc8d9")] :=
  filter_keys_of_sublist modelledFuncs_names_nodup rfl (sublist_of_rows (I := [74, 75, 76, 83, 84, 85, 86, 87, 88]) (by decide) rfl)

end Rio
