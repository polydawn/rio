import Rio.Proofs.SourceTable
/-! GENERATED by bin/pin_sources — the pinned source digests for C17.  Do not edit by hand. -/
namespace Rio

/-- the functions whose source text the models behind C17 mirror -/
def C17_sources : List String := ["transmat/mixins/filters:.ApplyPackFilter", "transmat/mixins/filters:.ApplyUnpackFilter", "transmat/mixins/fshash:.HashBucket", "transmat/mixins/fshash:.marshalMetadata", "transmat/mixins/fshash:MemoryBucket.AddRecord", "transmat/mixins/fshash:MemoryBucket.UpdateRecord", "transmat/mixins/fshash:MemoryBucket.HasRecord", "transmat/mixins/fshash:MemoryBucket.Iterator", "transmat/mixins/fshash:MemoryBucket.Length", "transmat/mixins/fshash:memoryBucketIterator.NextChild", "transmat/tar:.TarHdrToMetadata", "transmat/tar:.unpackTar", "transmat/tar:.packTar", "transmat/zip:.ZipHdrToMetadata", "transmat/zip:.parseZipExtraHeader", "transmat/zip:.parseUnix3Header", "transmat/zip:.parseUnix2Header", "transmat/zip:.zipFileOwnership", "transmat/zip:.unpackZip", "transmat/mixins/cache:cache.Unpack", "transmat/mixins/cache:cache.populate", "transmat/mixins/cache:cache.place"]

/-- **T-fact source tie for C17**: the digest of the current source text of each of these functions (regenerated from
    /repo on every run) is the pinned one.  Any edit of one of them breaks this theorem; the check then searches the
    model and the implementation for a failing input. -/
theorem C17_source_tie :
    Generated.modelledFuncs.filter (fun p => C17_sources.contains p.1) = [
    ("transmat/mixins/filters:.ApplyPackFilter", "45cedc65a1dd0e8b"),
    ("transmat/mixins/filters:.ApplyUnpackFilter", "85d5451c7449c2b6"),
    ("transmat/mixins/fshash:.HashBucket", "628f48fbfe28dc40"),
    ("transmat/mixins/fshash:.marshalMetadata", "ef39fff3e7c4b1f5"),
    ("transmat/mixins/fshash:MemoryBucket.AddRecord", "5b695816a5eecb82"),
    ("transmat/mixins/fshash:MemoryBucket.UpdateRecord", "5e2e2089f611793a"),
    ("transmat/mixins/fshash:MemoryBucket.HasRecord", "f0f2e475171c81b7"),
    ("transmat/mixins/fshash:MemoryBucket.Iterator", "138c31d560c93774"),
    ("transmat/mixins/fshash:MemoryBucket.Length", "53530cedb59c8ad5"),
    ("transmat/mixins/fshash:memoryBucketIterator.NextChild", "6dfddddc7384fd07"),
    ("transmat/tar:.TarHdrToMetadata", "802d5fea015d76e4"),
    ("transmat/tar:.unpackTar", "261a9838a1b9957e"),
    ("transmat/tar:.packTar", "3944eda7b5f97fd0"),
    ("transmat/zip:.ZipHdrToMetadata", "9933cd38761e683c"),
    ("transmat/zip:.parseZipExtraHeader", "d6b39d52ef8f04a0"),
    ("transmat/zip:.parseUnix3Header", "28e35c8a66f78347"),
    ("transmat/zip:.parseUnix2Header", "64ce4a6185f24744"),
    ("transmat/zip:.zipFileOwnership", "15170103bc96797f"),
    ("transmat/zip:.unpackZip", "6185d4b5a59d2604"),
    ("transmat/mixins/cache:cache.Unpack", "61afe9cc4ecaccba"),
    ("transmat/mixins/cache:cache.populate", "fe0d3b17bdfd07d6"),
    ("transmat/mixins/cache:cache.place", "fac8ab8f7aca00c3")] :=
  filter_keys_of_sublist modelledFuncs_names_nodup rfl (sublist_of_rows (I := [30, 31, 32, 33, 34, 35, 36, 37, 38, 39, 40, 42, 43, 46, 48, 49, 50, 51, 54, 61, 62, 63]) (by decide) rfl)

end Rio
