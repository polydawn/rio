import Rio.Proofs.SourceTable
/-! GENERATED by bin/pin_sources — the pinned source digests for C12.  Do not edit by hand. -/
namespace Rio

/-- the functions whose source text the models behind C12 mirror -/
def C12_sources : List String := ["transmat/mixins/filters:.ApplyPackFilter", "transmat/mixins/filters:.ApplyUnpackFilter", "transmat/tar:.unpackTar", "transmat/tar:.packTar", "transmat/zip:.unpackZip", "transmat/zip:.packZip"]

/-- **T-fact source tie for C12**: the digest of the current source text of each of these functions (regenerated from
    /repo on every run) is the pinned one.  Any edit of one of them breaks this theorem; the check then searches the
    model and the implementation for a failing input. -/
theorem C12_source_tie :
    Generated.modelledFuncs.filter (fun p => C12_sources.contains p.1) = [
    ("transmat/mixins/filters:.ApplyPackFilter", "45cedc65a1dd0e8b"),
    ("transmat/mixins/filters:.ApplyUnpackFilter", "85d5451c7449c2b6"),
    ("transmat/tar:.unpackTar", "261a9838a1b9957e"),
    ("transmat/tar:.packTar", "3944eda7b5f97fd0"),
    ("transmat/zip:.unpackZip", "6185d4b5a59d2604"),
    ("transmat/zip:.packZip", "9feaba32a875d69f")] :=
  filter_keys_of_sublist modelledFuncs_names_nodup rfl (sublist_of_rows (I := [30, 31, 42, 43, 54, 55]) (by decide) rfl)

end Rio
