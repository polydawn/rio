import Rio.Proofs.SourceTable
/-! GENERATED by bin/pin_sources — the pinned source digests for C11.  Do not edit by hand. -/
namespace Rio

/-- the functions whose source text the models behind C11 mirror -/
def C11_sources : List String := ["transmat/mixins/cache:cache.Unpack", "transmat/mixins/cache:cache.populate", "transmat/mixins/cache:cache.place", "stitch/placer:.CopyPlacer", "stitch/placer:.BindPlacer", "stitch/placer:.NewOverlayPlacer", "stitch/placer:.mkDest", "stitch/placer:copyJanitor.AlwaysTry", "stitch/placer:bindJanitor.AlwaysTry", "stitch/placer:overlayJanitor.AlwaysTry", "stitch/placer:copyJanitor.Teardown", "stitch/placer:bindJanitor.Teardown", "stitch/placer:overlayJanitor.Teardown"]

/-- **T-fact source tie for C11**: the digest of the current source text of each of these functions (regenerated from
    /repo on every run) is the pinned one.  Any edit of one of them breaks this theorem; the check then searches the
    model and the implementation for a failing input. -/
theorem C11_source_tie :
    Generated.modelledFuncs.filter (fun p => C11_sources.contains p.1) = [
    ("transmat/mixins/cache:cache.Unpack", "61afe9cc4ecaccba"),
    ("transmat/mixins/cache:cache.populate", "fe0d3b17bdfd07d6"),
    ("transmat/mixins/cache:cache.place", "fac8ab8f7aca00c3"),
    ("stitch/placer:.CopyPlacer", "5d2355a722c88cd9"),
    ("stitch/placer:.BindPlacer", "aec1590406a9184d"),
    ("stitch/placer:.NewOverlayPlacer", "5d267c6073997430"),
    ("stitch/placer:.mkDest", "9432e74349f3f39b"),
    ("stitch/placer:copyJanitor.AlwaysTry", "3f2ce4556e03417a"),
    ("stitch/placer:bindJanitor.AlwaysTry", "fdf0fe3612467b04"),
    ("stitch/placer:overlayJanitor.AlwaysTry", "75deb520d785dc35"),
    ("stitch/placer:copyJanitor.Teardown", "0db774e5fd787284"),
    ("stitch/placer:bindJanitor.Teardown", "c5b621164b94b04f"),
    ("stitch/placer:overlayJanitor.Teardown", "8cf08f03b3fcc8d9")] :=
  filter_keys_of_sublist modelledFuncs_names_nodup rfl (sublist_of_rows (I := [61, 62, 63, 79, 80, 81, 82, 83, 84, 85, 86, 87, 88]) (by decide) rfl)

end Rio
