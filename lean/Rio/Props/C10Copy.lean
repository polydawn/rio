import Rio.Proofs.CopyWalk
import Rio.Generated.Facts
/-!
# C10 — the copy placer's walk: every node, directories included, gets its source mtime

`walk_mtimes` (Rio/Proofs/CopyWalk.lean), for every finite tree with unique names per directory, every clock and every
earlier content of the destination file system.  The frame theorem says what else the walk writes: the mtime of the
directory that receives the root — which `RepairMtime` puts back (`C10_parent_mtime_repaired`) — and nothing more.
-/
namespace Rio

/-- **Copy placement preserves every mtime of the tree** -/
theorem C10_copy_mtimes (now : MPath → Nat) (root : MNode) (parent : MPath) (hwf : root.wf) (s : MFs) :
    ∀ x ∈ nodesOf root parent, mrun s (walkOps now true root parent) x.1 = some x.2 :=
  walk_mtimes now root parent hwf s

/-- **and writes nothing but the tree and the receiving directory's mtime** -/
theorem C10_copy_frame (now : MPath → Nat) (post : Bool) (root : MNode) (parent : MPath) (s : MFs) (r : MPath)
    (h1 : r ≠ parent) (h2 : ¬ Under parent root.name r) :
    mrun s (walkOps now post root parent) r = s r :=
  mrun_untouched _ s r fun op hop ht => (walkOps_frame now post root parent op hop r ht).elim h1 h2

/-- what `postVisit` is for: without it a directory shows the moment its last child was placed -/
theorem C10_counter_no_postvisit :
    mrun (fun _ => none) (walkOps (fun p => 1000 + p.length) false (.dir 1 5 [.file 2 7]) []) [1] = some 1002 := by
  decide

/-- non-vacuity (a test): with `postVisit` the directory of the counter-example keeps its mtime, and a tree that repeats
    a name in different directories is well-formed -/
example : mrun (fun _ => none) (walkOps (fun p => 1000 + p.length) true (.dir 1 5 [.file 2 7, .dir 3 9 [.file 2 11]]) []) [1] = some 5
    ∧ (MNode.dir 1 5 [.file 2 7, .dir 3 9 [.file 2 11]]).wf := by
  refine ⟨by decide, ?_⟩
  simp [MNode.wf, kidsWf, MNode.name]

/-- T-fact tie: `postVisit` re-times directories, and only them, to the source's mtime; the parent repair is deferred
    before anything is removed or created. -/
theorem C10_copy_tie :
    Generated.copyPlacerPostVisit = "if filenode.Info.Type == fs.Type_Dir { SetTimesNano(filenode.Info.Name, filenode.Info.Mtime, fs.DefaultTime) }" ∧
    Generated.copyPlacerRepairBeforeRemove = true := ⟨rfl, rfl⟩

end Rio
