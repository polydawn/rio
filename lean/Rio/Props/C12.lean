import Rio.Model.Pack
import Rio.Proofs.Branches
/-!
# C12 — Filters change exactly the attribute they name

`applyPackFilter` / `applyUnpackFilter` / `PackFilter.apply` are the models of
`filters.ApplyPackFilter`, `filters.ApplyUnpackFilter` and `api.Fileset*Filter.Apply`; they are
tied to the Go code by the `filt` stream (all 324 + 324 complete filter settings × an entry zoo,
plus stacking) and, end to end, by the `unpack` and `pack` streams.

The documented rule is stated independently here (`specPack`, `packRejects`) and the model is
proved equal to it.
-/
namespace Rio

/-- a reject rule names this entry -/
def packRejects (ff : PackFilter) (m : Meta) : Prop :=
  (ff.setid = ffReject ∧ (if ff.sticky ≠ ffKeep then clearBits m.perms permSticky else m.perms) &&& (permSetuid ||| permSetgid) ≠ 0)
  ∨ (ff.dev = ffReject ∧ isDevKind m.kind = true)

instance (ff : PackFilter) (m : Meta) : Decidable (packRejects ff m) := by unfold packRejects; infer_instance

/-- the entry is dropped (device node under `dev=ignore`) -/
def packDrops (ff : PackFilter) (m : Meta) : Bool :=
  ff.dev ≠ ffReject && ff.dev ≠ ffKeep && isDevKind m.kind

/-- attribute by attribute: set uid / gid / mtime to the given value, clear sticky, clear setuid+setgid. -/
def specPack (ff : PackFilter) (m : Meta) : Meta :=
  { m with
    uid := if ff.uid ≠ ffKeep then toU32 ff.uid else m.uid
    gid := if ff.gid ≠ ffKeep then toU32 ff.gid else m.gid
    mtime := if ff.mtime ≠ ffKeep then ⟨ff.mtime, 0⟩ else m.mtime
    perms :=
      let p := if ff.sticky ≠ ffKeep then clearBits m.perms permSticky else m.perms
      if ff.setid ≠ ffReject ∧ ff.setid ≠ ffKeep then clearBits p (permSetuid ||| permSetgid) else p
    kind := if packDrops ff m then .invalid else m.kind }

theorem packDrops_iff (ff : PackFilter) (m : Meta) :
    packDrops ff m = true ↔ ff.dev ≠ ffReject ∧ ff.dev ≠ ffKeep ∧ isDevKind m.kind = true := by
  simp only [packDrops, Bool.and_eq_true, decide_eq_true_eq, and_assoc]

/-- **The pack filter is the documented rule**: it fails with `filter-rejection` exactly when a reject
    rule names the entry, and otherwise yields the entry with exactly the named attributes changed. -/
theorem C12_pack_entry (ff : PackFilter) (m : Meta) :
    applyPackFilter ff m = if packRejects ff m then .error .filterRejection else .ok (specPack ff m) := by
  unfold applyPackFilter packRejects specPack
  -- each one-field `if` of the model moves into its field (Rio/Proofs/Branches.lean); what is left are the two reject tests in a row
  simp only [↓Meta.ite_uid, ↓Meta.ite_gid, ↓Meta.ite_mtime, ↓Meta.ite_perms, ↓Meta.ite_kind, packDrops_iff]
  exact ite_or_same ..

theorem applyPackFilter_ok {ff : PackFilter} {m m' : Meta} (h : applyPackFilter ff m = .ok m') :
    ¬ packRejects ff m ∧ m' = specPack ff m := by
  rw [C12_pack_entry] at h
  split at h
  · cases h
  · exact ⟨‹_›, (Except.ok.inj h).symm⟩

/-- A rejection is always the `rio-filter-rejection` category, and happens iff an offending entry exists. -/
theorem C12_reject_iff (ff : PackFilter) (m : Meta) :
    (∃ c, applyPackFilter ff m = .error c) ↔ packRejects ff m := by
  rw [C12_pack_entry]
  by_cases h : packRejects ff m <;> simp [h]

/-- Nothing but the named attributes changes: name, size, link target, device numbers and xattrs are
    untouched; the type changes only when the entry is dropped. -/
theorem C12_only_named (ff : PackFilter) (m m' : Meta) (h : applyPackFilter ff m = .ok m') :
    m'.name = m.name ∧ m'.size = m.size ∧ m'.linkname = m.linkname ∧ m'.devmajor = m.devmajor ∧
    m'.devminor = m.devminor ∧ m'.xattrs = m.xattrs ∧ (m'.kind = m.kind ∨ (m'.kind = .invalid ∧ isDevKind m.kind = true)) := by
  cases (applyPackFilter_ok h).2
  refine ⟨rfl, rfl, rfl, rfl, rfl, rfl, ?_⟩
  by_cases hd : packDrops ff m = true
  · exact .inr ⟨if_pos hd, ((packDrops_iff ff m).1 hd).2.2⟩
  · exact .inl (if_neg hd)

/-- **Flattening**: when uid, gid and mtime are all set by the filter, the filtered entry does not
    depend on who owned the file or when it was touched. -/
theorem C12_flatten (ff : PackFilter) (m : Meta) (u g : Nat) (t : Time)
    (hu : ff.uid ≠ ffKeep) (hg : ff.gid ≠ ffKeep) (ht : ff.mtime ≠ ffKeep) :
    applyPackFilter ff { m with uid := u, gid := g, mtime := t } = applyPackFilter ff m := by
  -- the reject rules read perms and type only; the three attributes are overwritten
  have hs : specPack ff { m with uid := u, gid := g, mtime := t } = specPack ff m := by
    simp only [specPack, if_pos hu, if_pos hg, if_pos ht]
    rfl
  rw [C12_pack_entry, C12_pack_entry, hs]
  rfl

/-! ### packing with a filter = lossless packing of the filtered fileset -/

def losslessPack : PackFilter := ⟨true, ffKeep, ffKeep, ffKeep, ffKeep, ffKeep, ffKeep⟩

/-- the filtered fileset: every entry by `specPack`, dropped entries removed -/
def filterFileset (ff : PackFilter) (es : List FsEntry) : List FsEntry :=
  es.filterMap (fun e => if packDrops ff e.m then none else some { e with m := specPack ff e.m })

theorem applyPackFilter_lossless (m : Meta) : applyPackFilter losslessPack m = .ok m := by
  simp [C12_pack_entry, packRejects, specPack, packDrops, losslessPack, ffKeep, ffReject]

theorem packEntry_dropped (fmt : PackFmt) (ff : PackFilter) (e : FsEntry) (b : Bucket)
    (he : ¬ packRejects ff e.m) (hd : packDrops ff e.m = true) : packEntry fmt ff e b = .ok b := by
  unfold packEntry
  rw [C12_pack_entry, if_neg he]
  exact if_pos (if_pos hd)

theorem packEntry_filtered (fmt : PackFmt) (ff : PackFilter) (e : FsEntry) (b : Bucket)
    (he : ¬ packRejects ff e.m) :
    packEntry fmt ff e b = packEntry fmt losslessPack { e with m := specPack ff e.m } b := by
  unfold packEntry
  rw [applyPackFilter_lossless, C12_pack_entry, if_neg he]

/-- **C12 (pack)**: if no reject rule fires, packing with `ff` gives the bucket — hence the wareID —
    that lossless packing gives for the filtered fileset. -/
theorem C12_pack (fmt : PackFmt) (ff : PackFilter) (es : List FsEntry) (b : Bucket)
    (hno : ∀ e ∈ es, ¬ packRejects ff e.m) :
    packEntries fmt ff es b = packEntries fmt losslessPack (filterFileset ff es) b := by
  induction es generalizing b with
  | nil => rfl
  | cons e es ih =>
    obtain ⟨he, hrest⟩ := List.forall_mem_cons.1 hno
    cases hd : packDrops ff e.m with
    | true =>
      simp only [packEntries, packEntry_dropped fmt ff e b he hd, filterFileset, List.filterMap_cons, hd, if_true]
      exact ih b hrest
    | false =>
      simp only [filterFileset, List.filterMap_cons, hd, Bool.false_eq_true, if_false, packEntries,
        packEntry_filtered fmt ff e b he]
      cases packEntry fmt losslessPack { e with m := specPack ff e.m } b with
      | ok b' => exact ih b' hrest
      | err c | panic w => rfl

/-- Corollary for wareIDs. -/
theorem C12_pack_id (H : Bytes → Bytes) (fmt : PackFmt) (ff : PackFilter) (es : List FsEntry)
    (hno : ∀ e ∈ es, ¬ packRejects ff e.m) :
    packId H fmt ff es = packId H fmt losslessPack (filterFileset ff es) := by
  simp only [packId, C12_pack fmt ff es [] hno]

/-- **C12 (reject)**: the whole pack fails with `filter-rejection` at the first offending entry, if every
    earlier entry could be packed. -/
theorem C12_pack_reject (fmt : PackFmt) (ff : PackFilter) (e : FsEntry) (es : List FsEntry) (b : Bucket)
    (h : packRejects ff e.m) : packEntries fmt ff (e :: es) b = .err .filterRejection := by
  simp [packEntries, packEntry, C12_pack_entry, h]

/-! ### stacking (`user.Apply(defaults)`) -/

theorem C12_cli_stack (user dflt : PackFilter) (hu : user.initialized = true) (hd : dflt.initialized = true) :
    let r := user.apply dflt
    r.uid = (if user.uid = ffUnspecified then dflt.uid else user.uid) ∧
    r.gid = (if user.gid = ffUnspecified then dflt.gid else user.gid) ∧
    r.mtime = (if user.mtime = ffUnspecified then dflt.mtime else user.mtime) ∧
    r.sticky = (if user.sticky = ffUnspecified then dflt.sticky else user.sticky) ∧
    r.setid = (if user.setid = ffUnspecified then dflt.setid else user.setid) ∧
    r.dev = (if user.dev = ffUnspecified then dflt.dev else user.dev) := by
  simp [PackFilter.apply, hu, hd, ffPick]

theorem ffPick_specified (a : Int) {b : Int} (hb : b ≠ ffUnspecified) : ffPick a b ≠ ffUnspecified := by
  unfold ffPick
  split
  · exact hb
  · assumption

theorem PackFilter.isComplete_iff (ff : PackFilter) :
    ff.isComplete = true ↔ ff.initialized = true ∧ ff.uid ≠ ffUnspecified ∧ ff.gid ≠ ffUnspecified ∧
      ff.mtime ≠ ffUnspecified ∧ ff.sticky ≠ ffUnspecified ∧ ff.setid ≠ ffUnspecified ∧ ff.dev ≠ ffUnspecified := by
  simp only [PackFilter.isComplete, Bool.and_eq_true, bne_iff_ne, ne_eq, and_assoc]

theorem C12_stack_complete (user dflt : PackFilter) (hu : user.initialized = true)
    (hc : dflt.isComplete = true) : (user.apply dflt).isComplete = true := by
  obtain ⟨hd, h1, h2, h3, h4, h5, h6⟩ := (PackFilter.isComplete_iff dflt).1 hc
  rw [PackFilter.apply, if_neg (by simp [hu]), if_neg (by simp [hd])]
  exact (PackFilter.isComplete_iff _).2 ⟨rfl, ffPick_specified _ h1, ffPick_specified _ h2, ffPick_specified _ h3,
    ffPick_specified _ h4, ffPick_specified _ h5, ffPick_specified _ h6⟩

/-- non-vacuity (tests): a setuid file under `setid=reject` is rejected; under `setid=ignore` the bits go. -/
example : packRejects { losslessPack with setid := ffReject } { defaultDirMeta ⟨[0x61], -1⟩ with kind := .file, perms := 0o4755 } := by decide
example : (specPack { losslessPack with setid := ffIgnore } { defaultDirMeta ⟨[0x61], -1⟩ with kind := .file, perms := 0o4755 }).perms = 0o755 := by decide

/-! ### the unpack filter: the same rule, with `mine` for the ids and symlinks exempt from `setid=reject` -/

/-- a reject rule of the unpack filter names this entry -/
def unpackRejects (ff : UnpackFilter) (m : Meta) : Prop :=
  (ff.setid = ffReject ∧ m.kind ≠ .symlink ∧
    (if ff.sticky ≠ ffKeep then clearBits m.perms permSticky else m.perms) &&& (permSetuid ||| permSetgid) ≠ 0)
  ∨ (ff.dev = ffReject ∧ isDevKind m.kind = true)

instance (ff : UnpackFilter) (m : Meta) : Decidable (unpackRejects ff m) := by unfold unpackRejects; infer_instance

/-- the unpack side's `packDrops`: the condition under which `specUnpack` sets `kind := .invalid`, written out there -/
def unpackDrops (ff : UnpackFilter) (m : Meta) : Bool :=
  ff.dev ≠ ffReject && ff.dev ≠ ffKeep && isDevKind m.kind

/-- attribute by attribute: uid / gid become the unpacking process's own ids (`mine`), a given number, or stay; mtime is
    set or stays; sticky and setuid+setgid bits are cleared or stay; a device node is dropped under `dev=ignore`. -/
def specUnpack (myUid myGid : Nat) (ff : UnpackFilter) (m : Meta) : Meta :=
  { m with
    uid := if ff.uid = ffContext then myUid else if ff.uid ≠ ffKeep then toU32 ff.uid else m.uid
    gid := if ff.gid = ffContext then myGid else if ff.gid ≠ ffKeep then toU32 ff.gid else m.gid
    mtime := if ff.mtime ≠ ffKeep then ⟨ff.mtime, 0⟩ else m.mtime
    perms :=
      let p := if ff.sticky ≠ ffKeep then clearBits m.perms permSticky else m.perms
      if ff.setid ≠ ffReject ∧ ff.setid ≠ ffKeep then clearBits p (permSetuid ||| permSetgid) else p
    kind := if ff.dev ≠ ffReject ∧ ff.dev ≠ ffKeep ∧ isDevKind m.kind = true then .invalid else m.kind }

/-- **The unpack filter is the documented rule**: `mtime=now` is a usage error; otherwise it fails with
    `filter-rejection` exactly when a reject rule names the entry, and otherwise yields the entry with exactly the
    named attributes changed — `mine` meaning the ids of the unpacking process. -/
theorem C12_unpack_entry (myUid myGid : Nat) (ff : UnpackFilter) (m : Meta) :
    applyUnpackFilter myUid myGid ff m =
      if ff.mtime = ffContext then .err .usage
      else if unpackRejects ff m then .err .filterRejection else .ok (specUnpack myUid myGid ff m) := by
  unfold applyUnpackFilter unpackRejects specUnpack
  simp only [↓Meta.ite_ite_uid, ↓Meta.ite_ite_gid, ↓Meta.ite_mtime, ↓Meta.ite_perms, ↓Meta.ite_kind]
  exact congrArg _ (ite_or_same ..)

theorem applyUnpackFilter_sat (myUid myGid : Nat) (ff : UnpackFilter) (m : Meta) :
    (applyUnpackFilter myUid myGid ff m).Sat (· = specUnpack myUid myGid ff m) := by
  rw [C12_unpack_entry]
  exact Outcome.sat_ite_err fun _ => Outcome.sat_ite_err fun _ => rfl

theorem applyUnpackFilter_ok {myUid myGid : Nat} {ff : UnpackFilter} {m m' : Meta}
    (h : applyUnpackFilter myUid myGid ff m = .ok m') : m' = specUnpack myUid myGid ff m := by
  have hs := applyUnpackFilter_sat myUid myGid ff m
  rw [h] at hs
  exact hs

theorem specUnpack_kind (myUid myGid : Nat) (ff : UnpackFilter) (m : Meta) :
    (specUnpack myUid myGid ff m).kind = m.kind ∨
      ((specUnpack myUid myGid ff m).kind = .invalid ∧ isDevKind m.kind = true) := by
  by_cases h : ff.dev ≠ ffReject ∧ ff.dev ≠ ffKeep ∧ isDevKind m.kind = true
  · exact .inr ⟨if_pos h, h.2.2⟩
  · exact .inl (if_neg h)

theorem nonaltering_fields {ff : UnpackFilter} (h : ff.altering = false) :
    ff.uid = ffKeep ∧ ff.gid = ffKeep ∧ ff.mtime = ffKeep ∧ ff.sticky = ffKeep ∧
    (ff.setid = ffKeep ∨ ff.setid = ffReject) ∧ (ff.dev = ffKeep ∨ ff.dev = ffReject) := by
  unfold UnpackFilter.altering at h
  simp only [Bool.or_eq_false_iff, Bool.and_eq_false_iff, bne_eq_false_iff_eq, and_assoc] at h
  exact h

theorem specUnpack_nonaltering (myUid myGid : Nat) {ff : UnpackFilter} (m : Meta) (hna : ff.altering = false) :
    specUnpack myUid myGid ff m = m := by
  obtain ⟨a, b, c, d, e, f⟩ := nonaltering_fields hna
  have hk : ffKeep ≠ ffContext := by decide
  have he : ¬ (ff.setid ≠ ffReject ∧ ff.setid ≠ ffKeep) := fun h => e.elim h.2 h.1
  have hf : ¬ (ff.dev ≠ ffReject ∧ ff.dev ≠ ffKeep ∧ isDevKind m.kind = true) := fun h => f.elim h.2.1 h.1
  simp only [specUnpack, a, b, c, d, hk, he, hf, if_false, ne_eq, not_true_eq_false]

/-- a symlink whose header claims setuid bits offends nothing (no file system gives a symlink a mode of its own, a cache
    shelf cannot show one): `setid=reject` lets it pass — on a cold cache as on a warm one; a file with the same bits is
    rejected (tests) -/
example : applyUnpackFilter 0 0 ⟨true, ffKeep, ffKeep, ffKeep, ffKeep, ffReject, ffKeep⟩ { defaultDirMeta ⟨[0x61], -1⟩ with kind := .symlink, perms := 0o4777 }
    = .ok { defaultDirMeta ⟨[0x61], -1⟩ with kind := .symlink, perms := 0o4777 } := by decide
example : applyUnpackFilter 0 0 ⟨true, ffKeep, ffKeep, ffKeep, ffKeep, ffReject, ffKeep⟩ { defaultDirMeta ⟨[0x61], -1⟩ with kind := .file, perms := 0o4777 }
    = .err .filterRejection := by decide

/-- `uid=mine` / `gid=mine`: the delivered entry carries the ids of the unpacking process — uid from the uid, gid from
    the gid -/
theorem C12_unpack_mine (myUid myGid : Nat) (ff : UnpackFilter) (m m' : Meta)
    (h : applyUnpackFilter myUid myGid ff m = .ok m') :
    (ff.uid = ffContext → m'.uid = myUid) ∧ (ff.gid = ffContext → m'.gid = myGid) := by
  cases applyUnpackFilter_ok h
  exact ⟨fun e => if_pos e, fun e => if_pos e⟩

/-- nothing but the named attributes changes on the unpack side either -/
theorem C12_unpack_only_named (myUid myGid : Nat) (ff : UnpackFilter) (m m' : Meta)
    (h : applyUnpackFilter myUid myGid ff m = .ok m') :
    m'.name = m.name ∧ m'.size = m.size ∧ m'.linkname = m.linkname ∧ m'.devmajor = m.devmajor ∧
    m'.devminor = m.devminor ∧ m'.xattrs = m.xattrs := by
  cases applyUnpackFilter_ok h
  exact ⟨rfl, rfl, rfl, rfl, rfl, rfl⟩

end Rio
