import Rio.Model.HostFs
import Rio.Proofs.UnpackNoPanic
import Rio.Generated.Facts
/-!
# C06 — Unpacking never touches anything outside the target directory

The mechanism is layered: the unpackers refuse names that climb (`..`) or are absolute; `PlaceFile` scans
every prefix of the entry's name (the name itself included) for symlinks before it creates anything; and
the system calls it then issues are no-follow or exclusive.  The theorems below are about the kernel's path
walk (`namei`, Rio/Model/HostFs.lean): once the scan has found no symlink, the kernel resolves
`target/name` *literally*, so whatever is created or changed lies under the target.  The `hostile` stream
attacks the real unpackers with crafted archives and compares everything outside the target before/after.
-/
namespace Rio

/-- what `PlaceFile`'s loop establishes: no prefix of the name (the whole name included) is a symlink -/
def ScanOk (fs : HFs) (base name : List Bytes) : Prop :=
  ∀ k, k < name.length → fs.isLink (base ++ name.take (k + 1)) = false

theorem ScanOk.cons {fs : HFs} {base : List Bytes} {c : Bytes} {rest : List Bytes} (h : ScanOk fs base (c :: rest)) :
    fs.isLink (base ++ [c]) = false ∧ ScanOk fs (base ++ [c]) rest :=
  ⟨h 0 (Nat.zero_lt_succ _), fun k hk => by
    rw [List.append_assoc]
    exact h (k + 1) (Nat.succ_lt_succ hk)⟩

/-- **Literal resolution.** If no prefix of `name` under `cur` is a symlink and `name` has no `..` component,
    the kernel's walk of `cur/name` ends exactly at `cur ++ name`, following nothing, whatever the rest of
    the host looks like and whether or not the last component may be followed. -/
theorem C06_literal (fs : HFs) (cur name : List Bytes) (fl : Bool)
    (hscan : ScanOk fs cur name) (hdd : [dot, dot] ∉ name) :
    namei fs name.length cur name fl = some (cur ++ name) := by
  induction name generalizing cur with
  | nil => simp [namei]
  | cons c rest ih =>
    obtain ⟨h0, hrest⟩ := hscan.cons
    have ih' := ih (cur ++ [c]) hrest fun h => hdd (List.mem_cons_of_mem _ h)
    rw [List.append_assoc] at ih'
    rw [List.length_cons, namei, if_neg fun e : c = [dot, dot] => hdd (e ▸ List.mem_cons_self)]
    unfold HFs.isLink at h0
    dsimp only
    -- the walk follows a link and otherwise steps on
    split
    · rename_i tg hg
      rw [hg] at h0
      cases h0
    · exact ih'

/-- the result lies under the starting directory -/
theorem C06_confined (fs : HFs) (target name : List Bytes) (fl : Bool)
    (hscan : ScanOk fs target name) (hdd : [dot, dot] ∉ name) :
    ∃ r, namei fs name.length target name fl = some r ∧ target <+: r :=
  ⟨target ++ name, C06_literal fs target name fl hscan hdd, List.prefix_append _ _⟩

/-- **Why the scan is needed**: with a symlink on the way the same walk leaves the target (a model witness). -/
theorem C06_counter_without_scan :
    let fs : HFs := [([[0x74]], .dir), ([[0x74], [0x6c]], .link [0x2f, 0x76]), ([[0x76]], .dir)]
    namei fs 5 [[0x74]] [[0x6c], [0x78]] false = some [[0x76], [0x78]] ∧ ¬ ([[0x74]] <+: [[0x76], [0x78]]) := by
  decide

/-- the unpackers refuse climbing and absolute names before `PlaceFile` is reached: an entry whose cleaned name
    is `..` or starts with `../`, or is absolute, never yields a metadata to place -/
theorem C06_refuse_climbing (h : TarHdr) (m : Meta) (hm : tarHdrToMeta h = .meta_ m) :
    mustRel h.name = some m.name := by
  obtain e | e | ⟨m', e, hn, _⟩ := tarHdrToMeta_cases h
  all_goals
    rw [e] at hm
    cases hm
  exact hn

/-- **An entry whose path passes through a name that an earlier entry of the same archive supplied as a symlink (or a
    file, a fifo, a device) is not placed**: with that name filed in the bucket as a non-directory and not known as a
    directory, one iteration of the tar entry loop never comes back with success — before `PlaceFile` could follow
    anything.  (Since `fix:` 190f773; the real file system refuses such an entry too — the `hostile` stream — but the
    nil file system of scan and mirror refuses nothing, so the loop has to.) -/
theorem C06_no_entry_through_own_symlink {σ : Type} (ops : FsOps σ) (myUid myGid : Nat) (filt : UnpackFilter) (h : TarHdr)
    (st : UnpackSt σ) (fmeta : Meta) (hm : tarHdrToMeta h = .meta_ fmeta) (p : RelPath)
    (hp : p ∈ fmeta.name.splitParent) (hnd : p ∉ st.dirs) (hlink : st.pre.has (fileTwin p) = true) :
    ∀ st', unpackEntry ops myUid myGid filt h st ≠ .ok st' := by
  unfold unpackEntry
  rw [hm]
  exact unpackMeta_not_ok ops myUid myGid filt fmeta _ st ⟨p, hp, hnd, hlink⟩

/-- the bucket key of a symlink, a file, a fifo or a device named `p` is the one the parent loop looks for -/
theorem fileTwin_key (m : Meta) (hk : m.kind ≠ .dir) : recordName (fileTwin m.name) = recordName m := by
  simp [recordName, fileTwin, defaultDirMeta, hk]

/-- T-fact tie: the calls `PlaceFile` relies on being no-follow resolve with `resolveLast = false`, and the one
    call that follows (`Chmod`) resolves the leaf in-base first (C07_discipline); see Props/C07. -/
theorem C06_tie : ∀ row ∈ Generated.osfsMethods,
    row.1 ∈ ["Mkdir", "Mklink", "Mkfifo", "MkdevBlock", "MkdevChar", "Lchown", "SetTimesLNano", "Readlink", "LStat"] →
    row.2.1 = ["false"] := by decide

end Rio
