import Rio.Proofs.Fetch
/-!
# C03 — A fetched ware is accepted only if it hashes to the requested wareID

`wrapUnpack` models `util.wrapUnpacker`, `mirror` models `util.CreateMirror`; `unpackTar` is the model
of the tar unpacker over the header list `archive/tar` decodes from the bytes actually fetched
(that decoding is the codec hypothesis; the `fetch` stream hands the model the decoded form of every
altered ware and compares outcomes with the real `Unpack` / `Mirror`).
-/
namespace Rio

variable {σ : Type}

/-- **Success implies verified**: if a fetch-and-unpack succeeds, the tree hash recomputed from the fetched
    entries (before filtering) is the requested one. For every filesystem, filter, hash function. -/
theorem C03_unpack (H : Bytes → Bytes) (ops : FsOps σ) (mu mg : Nat) (filt : UnpackFilter) (req : Bytes)
    (pick : PickRes) (hdrs : List TarHdr) (fin : StreamEnd) (head : Bytes) (s0 s : σ) (post : Bytes)
    (h : wrapUnpack H ops mu mg filt req pick hdrs fin head s0 = .ok (s, post)) :
    unpackTar H ops mu mg filt hdrs fin s0 head = .ok (s, req, post) := by
  unfold wrapUnpack at h
  cases pick with
  | err c => simp at h
  | opened i =>
    cases hu : unpackTar H ops mu mg filt hdrs fin s0 head with
    | panic w | err c => simp [hu] at h
    | ok r =>
      obtain ⟨s', pre, post'⟩ := r
      simp only [hu] at h
      by_cases hp : pre = req
      · subst hp; simp at h; obtain ⟨rfl, rfl⟩ := h; rfl
      · simp [hp] at h

/-- **A ware that still parses but encodes another fileset is refused with exactly `hash-mismatch`.** -/
theorem C03_mismatch (H : Bytes → Bytes) (ops : FsOps σ) (mu mg : Nat) (filt : UnpackFilter) (req : Bytes)
    (i : Nat) (hdrs : List TarHdr) (fin : StreamEnd) (head : Bytes) (s0 s : σ) (pre post : Bytes)
    (hu : unpackTar H ops mu mg filt hdrs fin s0 head = .ok (s, pre, post)) (hne : pre ≠ req) :
    ∃ e, wrapUnpack H ops mu mg filt req (.opened i) hdrs fin head s0 = e ∧ (match e with | .err .hashMismatch => True | _ => False) := by
  refine ⟨_, rfl, ?_⟩
  simp [wrapUnpack, hu, hne]

/-- **A stream that does not decode to the end is never accepted** (truncation, corrupt header):
    the unpacker returns an error, whatever was decoded before the break. -/
theorem C03_corrupt_never_ok (H : Bytes → Bytes) (ops : FsOps σ) (mu mg : Nat) (filt : UnpackFilter)
    (hdrs : List TarHdr) (head : Bytes) (s0 : σ) (r : σ × Bytes × Bytes) :
    unpackTar H ops mu mg filt hdrs .corrupt s0 head ≠ .ok r := by
  unfold unpackTar
  by_cases hl : head.length < 10
  · rw [if_pos hl]
    nofun
  · rw [if_neg hl]
    cases unpackEntries ops mu mg filt hdrs ⟨s0, [], [], []⟩ <;> simp

/-- **Mirror commits only verified bytes**: `Commit` appears in the event log only if the scan of the teed
    stream produced the requested wareID; and whenever the outcome is not success, either no commit was
    attempted or the commit itself failed. -/
theorem C03_mirror (H : Bytes → Bytes) (req : Bytes) (targetHas writerOk : Bool) (pick : PickRes)
    (hdrs : List TarHdr) (fin : StreamEnd) (head : Bytes) (commitOk : Bool)
    (hc : MirrorEv.commit ∈ (mirror H req targetHas writerOk pick hdrs fin head commitOk).2) :
    ∃ post, unpackTar H nilOps 0 0 ⟨true, ffKeep, ffKeep, ffKeep, ffKeep, ffKeep, ffKeep⟩ hdrs fin () head = .ok ((), req, post) :=
  (mirror_cases H req targetHas writerOk pick hdrs fin head commitOk).elim (fun h => absurd hc h.1) (·.2)

end Rio
