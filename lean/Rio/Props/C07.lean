import Rio.Model.Osfs
import Rio.Generated.Facts
import Rio.Proofs.OsfsRule
/-!
# C07 — A based filesystem handle resolves paths like a chroot and never escapes

`realpath` / `resolveLink` (Rio/Model/Osfs.lean) model osfs's resolver over an abstract tree; they are
compared with the real resolver, and the real resolver with the kernel's own in-root resolution
(`openat2(RESOLVE_IN_ROOT)`), by the `osfs` stream on random forests of directories, files and symlinks.
-/
namespace Rio

/-- host calls that follow a symlink in the last path segment -/
def followsLeaf : List String := ["os.Chmod", "os.Open", "os.Stat", "syscall.UtimesNano", "os.OpenFile"]

/-- **Discipline** (T-fact, over the regenerated table of osFS methods): every method whose host call follows
    a final symlink resolves the last segment itself first (`realpath(path, true)` on that path). -/
theorem C07_discipline : ∀ row ∈ Generated.osfsMethods,
    (row.2.2.any (fun c => followsLeaf.contains c) = true) → row.2.1.contains "true" = true := by
  decide

/-- the table itself: which resolution mode and which host calls each method uses -/
theorem C07_methods : Generated.osfsMethods = [
    ("Chmod", ["true"], ["os.Chmod"]),
    ("LStat", ["false"], ["os.Lstat"]),
    ("Lchown", ["false"], ["os.Lchown"]),
    ("MkdevBlock", ["false"], ["syscall.Mknod"]),
    ("MkdevChar", ["false"], ["syscall.Mknod"]),
    ("Mkdir", ["false"], ["os.Mkdir"]),
    ("Mkfifo", ["false"], ["syscall.Mkfifo"]),
    ("Mklink", ["false"], ["os.Symlink"]),
    ("OpenFile", ["false", "true"], ["os.OpenFile"]),
    ("ReadDirNames", ["true"], ["os.Open"]),
    ("Readlink", ["false"], []),
    ("SetTimesLNano", ["false"], ["syscall.BytePtrFromString", "syscall.Syscall6"]),
    ("SetTimesNano", ["true"], ["syscall.UtimesNano"]),
    ("Stat", ["true"], ["os.Stat"])] := rfl

/-- a path that leaves the base is refused before anything is looked at -/
theorem C07_goesup_refused (t : Tree_) (p : RelPath) (rl : Bool) (h : p.goesUp = true) :
    realpath t p rl = .err .breakout p := by
  simp [realpath, h]

/-- the resolved path never leaves the base when the tree holds no symlink at all: it is the path itself -/
theorem C07_single_segment_nolinks (t : Tree_) (s : Bytes) (rl : Bool)
    (hrel : mustRel s = some ⟨s, -1⟩) (hup : (⟨s, -1⟩ : RelPath).goesUp = false) (hne : s ≠ [])
    (hs : splitOn slash s = [s]) (hnot : readlinkAt t ⟨s, -1⟩ = .notLink) :
    realpath t ⟨s, -1⟩ rl = .ok ⟨s, -1⟩ := by
  have hj : (⟨[], 0⟩ : RelPath).join (single s) = ⟨s, -1⟩ := by
    simp [RelPath.join, single, hrel, hne]
  cases rl <;> simp [realpath, hup, hne, hs, realpathSegs, hj, hnot]

/-- cycles end in an error, not in non-termination (tests on literal trees; the general statement is `C07_terminates` below) -/
example : realpath [([0x6c, 0x31], .link [0x6c, 0x32]), ([0x6c, 0x32], .link [0x6c, 0x31])] ⟨[0x6c, 0x31], -1⟩ true
    = .err .recursion ⟨[0x6c, 0x31], -1⟩ := by decide +kernel
example : (resolveLink [([0x6c, 0x31], .link [0x6c, 0x31])] 3 [0x6c, 0x31] ⟨[0x6c, 0x31], -1⟩ []).1
    = .err .recursion ⟨[0x6c, 0x31], -1⟩ := by decide +kernel
/-- an absolute target is re-rooted at the base; excess `..` stays at the base (tests) -/
example : realpath [([0x64], .dir), ([0x64, 0x2f, 0x61], .file), ([0x6c], .link [0x2f, 0x64, 0x2f, 0x61])] ⟨[0x6c], -1⟩ true
    = .ok ⟨[0x64, 0x2f, 0x61], 1⟩ := by decide +kernel
example : realpath [([0x61], .file), ([0x6c], .link [0x2e, 0x2e, 0x2f, 0x2e, 0x2e, 0x2f, 0x61])] ⟨[0x6c], -1⟩ true
    = .ok ⟨[0x61], -1⟩ := by decide +kernel

/-! ## Termination and confinement for every tree (`insideInv`, `fuelInv` in `Rio/Proofs/OsfsRule.lean`) -/

/-- **Symlink cycles end in an error, not in non-termination**: for every forest of directories, files and symlinks
    (targets absolute, relative, over-dotted, dangling, cyclic, chained — `t` is arbitrary), every canonical path and
    both resolution modes, the resolver never exhausts its fuel of `numLinks t + 2`: the `seen` list only ever holds
    distinct locations of symlinks of the tree, so the depth of the recursion is bounded by their number. -/
theorem C07_terminates (t : Tree_) (path : RelPath) (rl : Bool) (hc : path.Clean) :
    realpath t path rl ≠ .outOfFuel :=
  (realpath_inside t path rl hc).ne_fuel

/-- **Whenever it succeeds, the result lies inside the base**: the resolved path is the canonical value of a list of
    normal components — no `..` survives (excess `..` is clamped at the base, absolute targets restart at the base). -/
theorem C07_confined (t : Tree_) (path p : RelPath) (rl : Bool) (hc : path.Clean)
    (h : realpath t path rl = .ok p) : Inside p ∧ p.goesUp = false ∧ p.Clean :=
  have hi := (realpath_inside t path rl hc).of_ok h
  ⟨hi, hi.not_up, hi.clean⟩

/-- the same for `ResolveLink` called directly (what `PlaceFile` uses), for any link location inside the base -/
theorem C07_resolveLink (t : Tree_) (target : Bytes) (startingAt : RelPath)
    (hin : Inside startingAt) (hl : IsLinkAt t startingAt) :
    (resolveLink t (numLinks t + 2) target startingAt []).1 ≠ .outOfFuel ∧
    ∀ p, (resolveLink t (numLinks t + 2) target startingAt []).1 = .ok p → Inside p :=
  have h := (resolveLink_out (insideInv t) (fuelInv t) _ target startingAt [] ⟨hin, hl⟩ (Fuel.start t)).1
  ⟨h.ne_fuel, fun _ e => h.of_ok e⟩

/-! ## No symlink is ever left to the kernel (`safeInv` in `Rio/Proofs/OsfsRule.lean`) -/

/-- **The resolver never asks the kernel about a location with a symlink in a proper prefix**: on every prefix-closed
    tree (`TreeWF`: ancestors of entries are entries — every directory tree is), for every canonical path and both
    modes, the model's `.hostFollow` outcome (a `readlink` of a path the kernel would resolve through a symlink, on the
    host) is unreachable. -/
theorem C07_nolinks (t : Tree_) (hwf : TreeWF t) (path : RelPath) (rl : Bool) (hc : path.Clean) :
    realpath t path rl ≠ .hostFollow :=
  (realpath_nolinks hwf path rl hc).ne_host

/-- **The path handed to the final system call is literal**: a successful result has no symlink among its proper
    prefixes, so the kernel resolves `B/p` component by component inside `B`: the object read or changed lies inside. -/
theorem C07_result_literal (t : Tree_) (hwf : TreeWF t) (path p : RelPath) (rl : Bool) (hc : path.Clean)
    (h : realpath t path rl = .ok p) :
    ∃ b, (∀ c ∈ b, Normal c) ∧ p = ofComps b ∧ ∀ i, i + 1 < b.length → NotLink t (joinWith slash (b.take (i + 1))) :=
  (realpath_nolinks hwf path rl hc).of_ok h

/-- the same for `ResolveLink` called directly, for a link location whose proper prefixes are link free -/
theorem C07_resolveLink_nolinks (t : Tree_) (hwf : TreeWF t) (fuel : Nat) (target : Bytes) (startingAt : RelPath)
    (seen : List RelPath) (hsa : SafeButLast t startingAt) :
    (resolveLink t fuel target startingAt seen).1 ≠ .hostFollow ∧
    ∀ p, (resolveLink t fuel target startingAt seen).1 = .ok p → Safe t p :=
  have h := (resolveLink_out (safeInv hwf) (anySeen _) fuel target startingAt seen hsa trivial).1
  ⟨h.ne_host, fun _ e => h.of_ok e⟩

/-- the hypothesis is met by real trees: `d/`, `d/a`, `l -> /d/a` is prefix closed (test of `TreeWF` via its
    decidable criterion) -/
example : TreeWF [([0x64], .dir), ([0x64, 0x2f, 0x61], .file), ([0x6c], .link [0x2f, 0x64, 0x2f, 0x61])] :=
  treeWF_of_b (by decide +kernel)

end Rio
