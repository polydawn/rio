import Rio.Model.Kvfs
import Rio.Generated.Facts
import Rio.Proofs.ListAux
/-!
# C08 — A warehouse never serves a partial ware

Transition system `wstep` (Rio/Model/Kvfs.lean): any number of concurrent writers into one
warehouse, every step succeeds or fails as a demonic scheduler chooses, a crash = a writer that is never
stepped again; a reader may look at the final addresses between any two steps, so "no reader ever sees
a partial ware" is "the invariant holds in every reachable state".
-/
namespace Rio

/-- what the writer's staging file holds is a prefix of its stream, and is the whole stream once the
    writer is about to commit — as long as no write error was dropped -/
def WriterOk (w : Writer) : Prop :=
  match w.pc with
  | .opening | .done _ | .cleanup _ => True
  | .writing k => w.intact = true ∧ w.staged = some (w.chunks.take k) ∧ k < w.chunks.length
  | .closing | .mkdirs | .moving => w.intact = true ∧ w.staged = some w.chunks

/-- every final address holds the complete stream of the ware it is the address of -/
def FinalsOk (s : WhState) : Prop := ∀ kv ∈ s.finals, kv ∈ s.complete

def WInv (s : WhState) : Prop :=
  FinalsOk s ∧ ∀ w ∈ s.writers, WriterOk w ∧ w.checkFlush = true ∧ (w.key, w.chunks) ∈ s.complete

theorem winv_setWriter {s : WhState} {i : Nat} {w : Writer} (h : WInv s)
    (hw : WriterOk w ∧ w.checkFlush = true ∧ (w.key, w.chunks) ∈ s.complete) : WInv (setWriter s i w) :=
  ⟨h.1, forall_mem_set h.2 i hw⟩

theorem afterChunk_ok (w : Writer) (k : Nat) {st : Option (List Chunk)} (hint : w.intact = true)
    (hst : st = some (w.chunks.take (k + 1))) : WriterOk { w with pc := afterChunk w k, staged := st } := by
  unfold afterChunk
  by_cases h1 : k + 1 < w.chunks.length
  · rw [if_pos h1]
    exact ⟨hint, hst, h1⟩
  · rw [if_neg h1]
    refine ⟨hint, ?_⟩
    rw [hst, List.take_of_length_le (Nat.le_of_not_lt h1)]

/-- **One step of any writer, with any injected outcome, preserves the invariant.** -/
theorem C08_inv_step (s : WhState) (i : Nat) (f : Fault) (h : WInv s) : WInv (wstep s i f) := by
  unfold wstep
  cases hg : s.writers[i]? with
  | none => exact h
  | some w =>
    obtain ⟨hok, hcf, hc⟩ := h.2 w (List.mem_of_getElem? hg)
    dsimp only
    cases hpc : w.pc with
    | done r => exact h
    | opening =>
      cases f with
      | fail => exact winv_setWriter h ⟨trivial, hcf, hc⟩
      | ok =>
        refine winv_setWriter h ⟨?_, hcf, hc⟩
        cases w.chunks with
        | nil => exact ⟨rfl, rfl⟩
        | cons c cs => exact ⟨rfl, rfl, Nat.succ_pos _⟩
    | writing k =>
      simp only [WriterOk, hpc] at hok
      obtain ⟨hint, hst, hk⟩ := hok
      dsimp only
      cases hgk : w.chunks[k]? with
      | none => exact absurd hk (Nat.not_lt.2 (List.getElem?_eq_none_iff.1 hgk))
      | some c =>
        cases f with
        | fail =>
          cases c with
          | body n => exact winv_setWriter h ⟨trivial, hcf, hc⟩
          | flush n =>
            rw [if_pos hcf]
            exact winv_setWriter h ⟨trivial, hcf, hc⟩
        | ok =>
          refine winv_setWriter h ⟨afterChunk_ok w k hint ?_, hcf, hc⟩
          rw [hst, List.take_add_one, hgk]
          rfl
    | closing | mkdirs =>
      simp only [WriterOk, hpc] at hok
      cases f with
      | fail => exact winv_setWriter h ⟨trivial, hcf, hc⟩
      | ok => exact winv_setWriter h ⟨hok, hcf, hc⟩
    | moving =>
      simp only [WriterOk, hpc] at hok
      cases f with
      | fail => exact winv_setWriter h ⟨trivial, hcf, hc⟩
      | ok =>
        have h' : WInv { s with finals := putFinal s.finals w.key (w.staged.getD []) } := by
          refine ⟨?_, h.2⟩
          intro kv hkv
          simp only [putFinal, List.mem_cons, List.mem_filter] at hkv
          rcases hkv with rfl | ⟨hkv, _⟩
          · rw [hok.2]
            exact hc
          · exact h.1 kv hkv
        exact winv_setWriter h' ⟨trivial, hcf, hc⟩
    | cleanup r => exact winv_setWriter h ⟨trivial, hcf, hc⟩

theorem winv_run {s : WhState} (sched : List (Nat × Fault)) (h : WInv s) : WInv (wrun s sched) :=
  List.foldlRecOn sched _ h (fun s h x _ => C08_inv_step s x.1 x.2 h)

/-- **C08**: for any number of writers (packs and mirrors) whose flush errors are checked, any schedule and any
    choice of failing steps — and any crash, i.e. any prefix of any schedule — every final address of the
    warehouse holds a complete ware. A reader polling between any two steps sees only complete wares. -/
theorem C08_inv (finals complete : List (WareId × List Chunk)) (ws : List Writer)
    (sched : List (Nat × Fault))
    (hfin : ∀ kv ∈ finals, kv ∈ complete)
    (hws : ∀ w ∈ ws, w.pc = .opening ∧ w.checkFlush = true ∧ (w.key, w.chunks) ∈ complete) :
    FinalsOk (wrun ⟨finals, complete, ws⟩ sched) := by
  have h0 : WInv ⟨finals, complete, ws⟩ := by
    refine ⟨hfin, fun w hw => ?_⟩
    obtain ⟨a, b, c⟩ := hws w hw
    exact ⟨by simp [WriterOk, a], b, c⟩
  exact (winv_run sched h0).1

/-- **An error leaves the set of readable wares unchanged**: the only step that touches the final
    addresses is a successful `rename`; every failing step goes to cleanup with an error. -/
theorem C08_error_clean (s : WhState) (i : Nat) (w : Writer) (hg : s.writers[i]? = some w)
    (hp : w.pc ≠ .moving) (f : Fault) : (wstep s i f).finals = s.finals := by
  unfold wstep
  rw [hg]
  dsimp only
  cases hpc : w.pc with
  | moving => exact absurd hpc hp
  | done _ | cleanup _ => rfl
  | opening | closing | mkdirs => cases f <;> rfl
  | writing k =>
    dsimp only
    cases w.chunks[k]? with
    | none => rfl
    | some c =>
      cases f with
      | ok => rfl
      | fail =>
        cases c with
        | body n => rfl
        | flush n => cases w.checkFlush <;> rfl

/-- after the deferred cleanup step the writer has no staging file (only a crash leaves one behind) -/
theorem C08_no_staging_after_return (s : WhState) (i : Nat) (w : Writer) (r : Option Cat)
    (hg : s.writers[i]? = some w) (hpc : w.pc = .cleanup r) (f : Fault) :
    ∃ w', (wstep s i f).writers[i]? = some w' ∧ w'.pc = .done r ∧ w'.staged = none := by
  unfold wstep
  rw [hg]
  simp only [hpc]
  exact ⟨_, getElem?_set_self_of_eq_some hg _, rfl, rfl⟩

/-- **Why the `fix:` was needed.** With unchecked flush errors (the pre-fix `tartrans.Pack`) a write failure at
    flush time commits a truncated ware: a model witness, replayed on the implementation by the `kvfs` stream. -/
theorem C08_counter_flush :
    let w := mkWriter [1] [.body 0, .flush 1] false
    let s := wrun ⟨[], [([1], [.body 0, .flush 1])], [w]⟩
      [(0, .ok), (0, .ok), (0, .fail), (0, .ok), (0, .ok), (0, .ok), (0, .ok)]
    s.finals = [([1], [.body 0])] ∧ ¬ FinalsOk s := by
  refine ⟨rfl, ?_⟩
  unfold FinalsOk
  decide

/-- T-fact tie: every flushing `Close()` in `tartrans.Pack` and `ziptrans.Pack` has its error checked, which
    is what `checkFlush = true` stands for. -/
theorem C08_flush_checked :
    (Generated.tarPackCloses.all (·.2)) = true ∧ (Generated.zipPackCloses.all (·.2)) = true ∧
    Generated.tarPackCloses.map (·.1) = ["tarWriter", "gzWriter"] ∧ Generated.zipPackCloses.map (·.1) = ["zipWriter"] := ⟨rfl, rfl, rfl, rfl⟩

/-- T-fact tie: the system calls of the kvfs write path, in order, are the model's steps. -/
theorem C08_kvfs_steps :
    Generated.kvfsOpenWriterSteps = ["os.OpenFile"] ∧
    Generated.kvfsCommitSteps = ["stream.Close", "os.Mkdir", "os.Mkdir", "os.Rename"] ∧
    Generated.kvfsCloseSteps = ["stream.Close", "os.Remove"] := ⟨rfl, rfl, rfl⟩

end Rio
