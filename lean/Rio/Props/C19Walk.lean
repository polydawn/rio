import Rio.Model.GitWalk
import Rio.Generated.Facts
/-!
# C19 — "exactly the commit's tree": never a truncated one

`C19_no_truncated_tree`: whatever tree objects the repository has lost, `unpackOneRepo` delivers every path of the
commit's tree or fails with corrupt-ware — `C19_counter_truncated` is what it did before `fix:` e6f1799 (success, the
paths before the hole).  Tied by the `git-hostile missing-subtree` scenario and by the T-fact that the check precedes
the walker.
-/
namespace Rio

mutual
/-- one induction over the object graph relates the three traversals: the walker stops early exactly when the check
    fails, and when it passes the walk is the whole tree -/
theorem GTree.walk_check_all : ∀ (t : GTree), t.walk.2 = !t.check ∧ t.all = if t.check then some t.walk.1 else none
  | .node es => es.walk_check_all []
theorem GEnts.walk_check_all : ∀ (es : GEnts) (pre : List Nat),
    (es.walk pre).2 = !es.check ∧ es.all pre = if es.check then some (es.walk pre).1 else none
  | .nil, pre | .dir n none rest, pre => by simp [GEnts.walk, GEnts.all, GEnts.check]
  | .file n rest, pre => by
    obtain ⟨a, b⟩ := rest.walk_check_all pre
    cases h : rest.check <;> simp [GEnts.walk, GEnts.all, GEnts.check, a, b, h]
  | .dir n (some (.node es)) rest, pre => by
    obtain ⟨a1, a2⟩ := es.walk_check_all (pre ++ [n])
    obtain ⟨b1, b2⟩ := rest.walk_check_all pre
    cases h1 : es.check <;> cases h2 : rest.check <;>
      simp [GEnts.walk, GEnts.all, GEnts.check, a1, a2, b1, b2, h1, h2]
end

/-- **The unpack delivers all of the commit's tree, or fails**: a success lists exactly the paths of the complete tree,
    and the unpack fails exactly when some tree object below the commit's tree is missing. -/
theorem C19_no_truncated_tree (t : GTree) :
    (∀ ps, gitUnpackPaths t = .ok ps → t.all = some ps) ∧ (gitUnpackPaths t = .corrupt ↔ t.all = none) := by
  unfold gitUnpackPaths
  rw [t.walk_check_all.2]
  cases t.check <;> simp

/-- before the fix: a tree `a, d/ (object lost), z` unpacked successfully to `a` alone -/
theorem C19_counter_truncated :
    gitUnpackPathsOld (.node (.file 1 (.dir 2 none (.file 3 .nil)))) = .ok [[1]] ∧
    gitUnpackPaths (.node (.file 1 (.dir 2 none (.file 3 .nil)))) = .corrupt := by decide

/-- non-vacuity: a complete nested tree is delivered whole -/
example : gitUnpackPaths (.node (.file 1 (.dir 2 (some (.node (.file 5 .nil))) (.file 3 .nil)))) = .ok [[1], [2], [2, 5], [3]] := by
  decide

/-- T-fact tie: `unpackOneRepo` runs `checkSubtreesPresent(tr)` before it creates the tree walker -/
theorem C19_check_precedes_walk : Generated.gitCheckBeforeWalk = true := rfl

end Rio
