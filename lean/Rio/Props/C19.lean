import Rio.Model.Git
import Rio.Proofs.PathTheory
/-!
# C19 — git unpack yields exactly the commit's tree

`gitUnpackMetas` models what `unpackOneRepo` places for the entries go-git's tree walker yields for the
commit's tree.  The model takes *only* those entries: refs, HEAD, index and work tree are not inputs.
Tied to the code by the `git` stream (repositories made with the system `git`; the expected tree comes
from `git ls-tree` / `git cat-file`).
-/
namespace Rio

/-- the `fs.MustRelPath` panic is unreachable behind the leading-slash guard -/
theorem gitEntryMeta_ne_panic (e : GitEntry) : gitEntryMeta e ≠ .panic := by
  unfold gitEntryMeta
  split
  · simp
  · rename_i hs
    rw [mustRel_eq hs]
    cases e.mode <;> simp

/-- walking stops at the first refused entry; otherwise every entry is placed, in order -/
theorem gitMetas_cases (es : List GitEntry) :
    gitMetas es = .corrupt ∨ ∃ ms, gitMetas es = .ok ms ∧ es.map gitEntryMeta = ms.map .ok := by
  induction es with
  | nil => exact Or.inr ⟨[], rfl, rfl⟩
  | cons e es ih =>
    simp only [gitMetas]
    cases he : gitEntryMeta e with
    | panic => exact absurd he (gitEntryMeta_ne_panic e)
    | corrupt => exact Or.inl rfl
    | ok m =>
      rcases ih with h | ⟨ms, h, hl⟩
      · rw [h]
        exact Or.inl rfl
      · rw [h]
        exact Or.inr ⟨m :: ms, rfl, by rw [List.map_cons, he, hl, List.map_cons]⟩

/-- a whole unpack is refused, or places the conjured root and then one metadata per entry; the root's name `⟨[], 0⟩` is
    Go's zero `RelPath{}`, which stands for `.` -/
theorem gitUnpackMetas_cases (es : List GitEntry) :
    gitUnpackMetas es = .corrupt ∨
      ∃ ms, gitUnpackMetas es = .ok (defaultDirMeta ⟨[], 0⟩ :: ms) ∧ es.map gitEntryMeta = ms.map .ok := by
  unfold gitUnpackMetas
  rcases gitMetas_cases es with h | ⟨ms, h, hl⟩
  · rw [h]
    exact Or.inl rfl
  · rw [h]
    exact Or.inr ⟨ms, rfl, hl⟩

/-- **Exactly one entry per path of the tree, with the documented mapping**: regular → file 0644, executable →
    file 0755, symlink → link with the blob as target, directory → dir 0755; owner 1000:1000; mtime the default
    time; and the name is the tree path. -/
theorem C19_tree (e : GitEntry) (m : Meta) (h : gitEntryMeta e = .ok m) :
    mustRel e.name = some m.name ∧ m.uid = 1000 ∧ m.gid = 1000 ∧ m.mtime = defaultTime ∧
    (e.mode = .regular → m.kind = .file ∧ m.perms = 0o644) ∧
    (e.mode = .deprecated → m.kind = .file ∧ m.perms = 0o644) ∧
    (e.mode = .executable → m.kind = .file ∧ m.perms = 0o755) ∧
    (e.mode = .oddRegular → m.kind = .file ∧ m.perms = 0o644) ∧
    (e.mode = .oddExecutable → m.kind = .file ∧ m.perms = 0o755) ∧
    (e.mode = .symlink → m.kind = .symlink ∧ m.linkname = e.blob) ∧
    (e.mode = .dir → m.kind = .dir ∧ m.perms = 0o755) := by
  unfold gitEntryMeta at h
  split at h
  · cases h
  · cases hn : mustRel e.name with
    | none => simp [hn] at h
    | some n =>
      simp only [hn] at h
      cases hm : e.mode <;> simp only [hm] at h <;> cases h <;> simp

/-- **No tree makes the unpack panic.**  Whatever names and modes a (hand-written) tree object carries, every
    entry is either placed or refused as `rio-ware-corrupt`: the `fs.MustRelPath` panic is unreachable behind the
    leading-slash guard, and an unknown file mode is a refusal. -/
theorem C19_never_panics (es : List GitEntry) : gitUnpackMetas es ≠ .panic := by
  rcases gitUnpackMetas_cases es with h | ⟨ms, h, _⟩
  all_goals
    rw [h]
    nofun

/-- exactly which entries are refused: a name starting with `/`, or a file mode go-git does not know -/
theorem C19_refused_iff (e : GitEntry) :
    gitEntryMeta e = .corrupt ↔ (e.name.head? = some slash ∨ e.mode = .other) := by
  unfold gitEntryMeta
  split
  · rename_i hs; simp [hs]
  · rename_i hs
    rw [mustRel_eq hs]
    cases hm : e.mode <;> simp [hs]

/-- the unpack places the conjured root plus one metadata per walked entry, in order: nothing else (no `.git`) -/
theorem C19_count (es : List GitEntry) (ms : List Meta) (h : gitUnpackMetas es = .ok ms) :
    ms.length = es.length + 1 := by
  rcases gitUnpackMetas_cases es with h' | ⟨ms', h', hl⟩
  · rw [h'] at h
    cases h
  · rw [h'] at h
    cases h
    have := congrArg List.length hl
    rw [List.length_map, List.length_map] at this
    rw [List.length_cons, this]

/-- **Frame**: the result is a function of the walked entries alone. Two repositories (any refs, HEAD, index,
    work tree) in which the commit's tree walks to the same entries unpack identically. -/
theorem C19_frame (es₁ es₂ : List GitEntry) (h : es₁ = es₂) : gitUnpackMetas es₁ = gitUnpackMetas es₂ := by
  rw [h]

/-- non-vacuity: a tree with a deprecated-mode file and a symlink is placed; one with an absolute name is refused -/
example : gitUnpackMetas [⟨[97], .deprecated, []⟩, ⟨[98], .symlink, [97]⟩] ≠ .corrupt := by decide
example : gitUnpackMetas [⟨[47, 97], .regular, []⟩] = .corrupt := by decide

end Rio
