import Rio.Model.Tar
import Rio.Proofs.FilesetTree
/-!
# C05 — WareID follows the frozen tree-hash format

`Rio/Spec/TreeHash.lean` is the format: `specHash`. The implementation model is `hashBucket`.
-/
namespace Rio

/-- **Compression detection does not depend on Go's map iteration order.** `DetectCompression` ranges
    over a `map[Compression][]byte`; whatever order the runtime picks, the answer is the same, because
    the three magic patterns start with different bytes so that at most one can match. -/
theorem C05_detect (src : Bytes) (order : List (Compression × Bytes)) (h : order.Perm magicTable) :
    detectCompressionIn order src = detectCompression src := by
  -- a match fixes the first byte of `src`, and the first byte fixes the entry of the table
  have hfirst : ∀ a ∈ magicTable, ∀ b ∈ magicTable, a.2.head? = b.2.head? → a = b := by decide
  have hne : ∀ a ∈ magicTable, a.2 ≠ [] := by decide
  have hhead : ∀ a ∈ order, hasPrefix src a.2 = true → a.2.head? = src.head? := fun a ha hp => by
    obtain ⟨t, rfl⟩ := hasPrefix_iff.1 hp
    cases ha2 : a.2 with
    | nil => exact absurd ha2 (hne a (h.mem_iff.1 ha))
    | cons x xs => rfl
  unfold detectCompression detectCompressionIn
  rw [find?_perm_unique (fun cm => hasPrefix src cm.2) h fun a ha b hb pa pb =>
    hfirst a (h.mem_iff.1 ha) b (h.mem_iff.1 hb) ((hhead a ha pa).trans (hhead b hb pb).symm)]

/-- **A stream that begins with a tar header is read as a plain tar, whatever its first bytes** (since `fix:`
    381ce6b): the first bytes of a plain tar are its first entry's *name*. -/
theorem C05_tar_header_wins (block : Bytes) (h : isTarHeader block = true) : decompressKind block = .uncompressed := by
  unfold decompressKind
  simp only [h, and_true]
  split
  · rfl
  · rename_i hc
    simpa using hc

/-- a tar header block for an entry named `BZh` (all other fields zero, checksum 516 = 0o1004) -/
def exBZhBlock : Bytes :=
  [0x42, 0x5A, 0x68] ++ List.replicate 145 0 ++ [0x30, 0x30, 0x31, 0x30, 0x30, 0x34, 0, 0x20] ++ List.replicate 356 0

/-- **Why the magic numbers alone were wrong**: this block is a valid tar header, and the magic-number test alone takes
    the stream for bzip2 (the pre-fix `Decompress`; a plain tar named `BZhello.txt` was refused as corrupt). -/
theorem C05_counter_magic_name :
    exBZhBlock.length = 512 ∧ isTarHeader exBZhBlock = true ∧ detectCompression (exBZhBlock.take 10) = .bzip2 ∧
    decompressKind exBZhBlock = .uncompressed := by decide +kernel

/-- compressed streams keep their detection: a gzip member's first block is no tar header (test) -/
example : decompressKind ([0x1f, 0x8b, 0x08, 0, 0, 0, 0, 0, 0, 0xff] ++ List.replicate 502 0x55) = .gzip := by decide +kernel

/-- a gzip stream is detected as gzip, plain tar as uncompressed (tests) -/
example : detectCompression [0x1f, 0x8b, 0x08, 0, 0, 0, 0, 0, 0, 0xff] = .gzip := by decide
example : detectCompression [0x2e, 0x2f, 0, 0, 0, 0, 0, 0, 0, 0] = .uncompressed := by decide

/-- a directory record and a file record named `⟨name, ls⟩`, `ls` being the index of the last `/` in `name` that
    `MustRelPath` keeps (-1 if there is none, 0 for the root `⟨[], 0⟩`) -/
private def d (name : Bytes) (ls : Int) : Record := mkRecord (defaultDirMeta ⟨name, ls⟩) []
private def f (name : Bytes) (ls : Int) (c : Bytes) : Record :=
  mkRecord { defaultDirMeta ⟨name, ls⟩ with kind := .file, perms := 0o644 } c

/-- `.`, `e`, `e/t`, `e/ty`: the shape of `./etc/trick` and `./etc/tricky` in rio's test fixture `FixtureGamma`
    (transmat/mixins/tests/fixturefiles.go).  The key `./e/t` is a prefix of `./e/ty`, so the frame of the file `e/t`
    is still on the stack when its sibling is visited. -/
private def trickTree : Tree :=
  .node (d [] 0) (.cons (.node (d [0x65] (-1))
     (.cons (.node (f [0x65, 0x2f, 0x74] 1 [1]) .nil)
     (.cons (.node (f [0x65, 0x2f, 0x74, 0x79] 1 [2]) .nil) .nil))) .nil)

set_option maxRecDepth 8000 in
/-- the `trick`/`tricky` trap (iterator nesting ≠ directory nesting), a *test* on one literal tree:
    implementation model = specification, for the identity "hash", records in reverse order. -/
example : (hashBucket id (flatten trickTree).reverse).toOption = some (specId id trickTree) := by decide +kernel

/-- **Refinement: the implementation computes the frozen format.**  For every hash function `H`, every
    well-formed fileset tree `t` (`WFRoot`: bucket keys nest like the directories, siblings in key order, only
    directories have children) and every order `recs` in which its records may be added to the bucket (walk
    order, readdir order, archive entry order), the model of `fshash.HashBucket` — sort, iterator frames that
    linger, lazily closed directory hashers — returns exactly the recursive specification `specHash`:
    `H({"m": meta, "l": [hash(child) …]})` for directories, `H({"m": meta, "h": contentHash})` for files.
    Proof: `Rio/Proofs/HashRefine.lean` (eager/lazy machine equivalence, then mutual recursion over the tree). -/
theorem C05_refine (H : Bytes → Bytes) (t : Tree) (hwf : WFRoot t) (recs : List Record)
    (hp : recs.Perm (flatten t)) : hashBucket H recs = .ok (specId H t) :=
  hashBucket_refines H t hwf recs hp

/-- the tree hash is therefore unchanged by anything that leaves the tree unchanged: two record orders of the
    same tree give the same id -/
theorem C05_order_free (H : Bytes → Bytes) (t : Tree) (hwf : WFRoot t) (r₁ r₂ : List Record)
    (h₁ : r₁.Perm (flatten t)) (h₂ : r₂.Perm (flatten t)) : hashBucket H r₁ = hashBucket H r₂ := by
  rw [C05_refine H t hwf r₁ h₁, C05_refine H t hwf r₂ h₂]

/-- a well-formed tree never makes `HashBucket` panic -/
theorem C05_wf_no_panic (H : Bytes → Bytes) (t : Tree) (hwf : WFRoot t) (recs : List Record)
    (hp : recs.Perm (flatten t)) : ∀ p, hashBucket H recs ≠ .error p := by
  intro p; rw [C05_refine H t hwf recs hp]; exact fun h => by cases h

/-- non-vacuity: the `trick`/`tricky` tree is well-formed in the sense of the theorem -/
example : WFRoot trickTree := by
  refine ⟨rfl, .inl ⟨rfl, rfl, WFF_cons.2 ⟨?_, WFF_nil, by simp [rootKeys]⟩⟩⟩
  refine .dir (c := [0x65]) (by simp) (by simp [slash]) rfl (by decide) (WFF_cons.2 ⟨?_, WFF_cons.2 ⟨?_, WFF_nil, ?_⟩, by decide⟩)
  · exact .leaf (c := [0x74]) (by simp) (by simp [slash]) (by decide) (by decide)
  · exact .leaf (c := [0x74, 0x79]) (by simp) (by simp [slash]) (by decide) (by decide)
  · simp [rootKeys]

/-- **Refinement, stated for filesets.**  A fileset given by component names (`LForest`: normal components, only
    directories have children, siblings in key order) yields — through `MustRelPath` names and `AddRecord` keys — a
    well-formed record tree, so for every order in which the walk or the archive delivers its records the
    implementation returns the specified tree hash. -/
theorem C05_refine_fileset (H : Bytes → Bytes) (m : Meta) (ch : Bytes) (kids : LForest)
    (h : (m.kind = .dir ∧ LWFF kids) ∨ (m.kind ≠ .dir ∧ kids = .nil)) (recs : List Record)
    (hp : recs.Perm (flatten (toRoot m ch kids))) :
    hashBucket H recs = .ok (specId H (toRoot m ch kids)) :=
  C05_refine H _ (toRoot_wf m ch kids h) recs hp

end Rio
