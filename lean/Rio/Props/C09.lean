import Rio.Model.Cache
import Rio.Generated.Facts
import Rio.Proofs.ListAux
/-!
# C09 — A cache shelf exists only for a complete, verified fileset

Transition system `cstep` (Rio/Model/Cache.lean): any number of processes, arbitrary interleaving of
their protocol steps, a crash = a process that is never scheduled again.  Tied to the Go code by the
`cache` stream (barrier scheduler in the `cache.*` instrumentation points).
-/
namespace Rio

/-- every shelf holds exactly the fileset it is named after -/
def ShelvesOk (s : CState) : Prop := ∀ kc ∈ s.shelves, kc.2 = .complete kc.1

/-- a process past a successful unpack holds the complete, verified fileset in its temp dir -/
def ProcOk (p : Proc) : Prop :=
  match p.pc with
  | .atUnpacked rid | .atRename rid => p.tmp = some (.complete (shelfKey p rid))
  | .atLookup | .atTmp | .atRenamed _ | .atPlace _ _ | .done _ => p.tmp = none
  | .unpacking => True

def Inv (s : CState) : Prop := ShelvesOk s ∧ ∀ p ∈ s.procs, ProcOk p

theorem inv_setProc {s : CState} {i : Nat} {p : Proc} (h : Inv s) (hp : ProcOk p) : Inv (setProc s i p) :=
  ⟨h.1, forall_mem_set h.2 i hp⟩

theorem inv_ite {c : Prop} [Decidable c] {s t : CState} (hs : Inv s) (ht : Inv t) : Inv (if c then s else t) := by
  split <;> assumption

theorem C09_inv_init (ps : List Proc) (shelves : List WareId)
    (hps : ∀ p ∈ ps, p.pc = .atLookup ∧ p.tmp = none) : Inv (initState ps shelves) := by
  refine ⟨?_, ?_⟩
  · intro kc hkc
    obtain ⟨k, _, rfl⟩ := List.mem_map.1 hkc
    rfl
  · intro p hp
    obtain ⟨h1, h2⟩ := hps p hp
    simp [ProcOk, h1, h2]

/-- **One step of any process preserves the invariant.** -/
theorem C09_inv_step (s : CState) (i : Nat) (h : Inv s) : Inv (cstep s i) := by
  unfold cstep
  cases hg : s.procs[i]? with
  | none => exact h
  | some p =>
    have hp : ProcOk p := h.2 p (List.mem_of_getElem? hg)
    dsimp only
    cases hpc : p.pc with
    | done r => exact h
    | atLookup =>
      simp only [ProcOk, hpc] at hp
      -- whichever way the lookup goes, only the program counter moves, to a state that has no temp dir either
      exact inv_ite (inv_ite (inv_setProc h hp) (inv_setProc h hp)) (inv_ite (inv_setProc h hp) (inv_setProc h hp))
    | atTmp => exact inv_setProc h trivial
    | unpacking =>
      cases p.yield with
      | error _ | ok _ => exact inv_setProc h rfl
    | atRename rid =>
      simp only [ProcOk, hpc] at hp
      dsimp only
      split
      · exact inv_setProc h rfl
      · have h' : Inv { s with shelves := (shelfKey p rid, p.tmp.getD .partial_) :: s.shelves } := by
          refine ⟨?_, h.2⟩
          intro kc hkc
          simp only [List.mem_cons] at hkc
          rcases hkc with rfl | hkc
          · simp [hp]
          · exact h.1 kc hkc
        exact inv_setProc h' rfl
    | atUnpacked _ | atRenamed _ | atPlace _ _ =>
      simp only [ProcOk, hpc] at hp
      exact inv_setProc h hp

theorem inv_run {s : CState} (sched : List Nat) (h : Inv s) : Inv (runSchedule s sched) :=
  List.foldlRecOn sched cstep h (fun s h i _ => C09_inv_step s i h)

/-- **C09**: in every state reachable by any schedule of any number of processes (a crashed process is
    one that stops being scheduled), every shelf holds exactly the complete fileset it is named after. -/
theorem C09_inv (ps : List Proc) (shelves : List WareId) (sched : List Nat)
    (hps : ∀ p ∈ ps, p.pc = .atLookup ∧ p.tmp = none) :
    ShelvesOk (runSchedule (initState ps shelves) sched) :=
  (inv_run sched (C09_inv_init ps shelves hps)).1

/-- **Clean return**: a process that has returned (ok or error) has no temp directory left. -/
theorem C09_clean (ps : List Proc) (shelves : List WareId) (sched : List Nat)
    (hps : ∀ p ∈ ps, p.pc = .atLookup ∧ p.tmp = none) :
    ∀ p ∈ (runSchedule (initState ps shelves) sched).procs, (∃ r, p.pc = .done r) → p.tmp = none := by
  intro p hp ⟨r, hr⟩
  have := (inv_run sched (C09_inv_init ps shelves hps)).2 p hp
  simpa [ProcOk, hr] using this

/-- **A failing unpack adds no shelf**: the step that consumes an error from the unpack tool leaves the
    shelves unchanged and removes the temp dir. -/
theorem C09_fail_adds_nothing (s : CState) (i : Nat) (p : Proc) (c : Cat)
    (hg : s.procs[i]? = some p) (hpc : p.pc = .unpacking) (hy : p.yield = .error c) :
    (cstep s i).shelves = s.shelves ∧ (cstep s i).procs[i]? = some { p with pc := .done (.error c), tmp := none } := by
  unfold cstep
  rw [hg]
  simp only [hpc, hy]
  exact ⟨rfl, getElem?_set_self_of_eq_some hg _⟩

/-- **The loser of a rename race succeeds**: if the shelf already exists at rename time the process goes on to
    place from it and reports the same wareID. -/
theorem C09_race_loser_succeeds (s : CState) (i : Nat) (p : Proc) (rid : WareId)
    (hg : s.procs[i]? = some p) (hpc : p.pc = .atRename rid) (hs : hasShelf s (shelfKey p rid) = true) :
    (cstep s i).procs[i]? = some { p with pc := .atPlace (shelfKey p rid) rid, tmp := none } ∧ (cstep s i).shelves = s.shelves := by
  unfold cstep
  rw [hg]
  simp only [hpc, hs, if_true]
  exact ⟨getElem?_set_self_of_eq_some hg _, rfl⟩

/-- **A filtered tree never lands on the shelf lossless requests are served from** (the keyed shelf of the `fix:`): the
    commit step of a process with an altering filter whose tool reported the requested id itself adds a shelf under a
    key that no lookup uses — lookups of altering requests use `-`, lookups of lossless requests use a ware id, and
    neither ends in the `+` mark as long as ware ids do not (base58 has no `+`). -/
theorem C09_filtered_tree_off_the_lossless_shelf (s : CState) (i : Nat) (p : Proc) (rid : WareId)
    (hg : s.procs[i]? = some p) (hpc : p.pc = .atRename rid) (halt : p.altering = true) (hsame : rid = p.req)
    (q : Proc) (hq : q.altering = false) (hid : q.req.getLast? ≠ some 0x2b) :
    ∀ kc ∈ (cstep s i).shelves, kc ∉ s.shelves → kc.1 ≠ lookupKey q := by
  intro kc hkc hnew
  unfold cstep at hkc
  rw [hg] at hkc
  simp only [hpc] at hkc
  split at hkc
  · exact absurd hkc hnew
  · simp only [setProc, List.mem_cons] at hkc
    rcases hkc with rfl | hkc
    · -- the new key ends in the `+` mark, the lookup key is a ware id
      intro heq
      have hk : shelfKey p rid = rid ++ [0x2b] := if_pos ⟨halt, hsame⟩
      have hl : lookupKey q = q.req := if_neg (by rw [hq]; exact Bool.false_ne_true)
      rw [hl] at heq
      rw [← heq, hk, List.getLast?_concat] at hid
      exact hid rfl
    · exact absurd hkc hnew

/-- …and an unaltered tree (or a filtered tree with an id of its own) is shelved under exactly the reported id. -/
theorem C09_shelfKey_plain (p : Proc) (rid : WareId) (h : p.altering = false ∨ rid ≠ p.req) : shelfKey p rid = rid := by
  unfold shelfKey
  rcases h with h | h <;> simp [h]

/-- **T-fact tie for the model's per-process temp dir.**  `Proc.tmp` is private to a process: the model assumes two
    processes never pick the same `.tmp.unpack.*` name.  In the code the name is `guid.New()`; it is fresh within
    a process only if the generator's shared state is read and written under its mutex alone.  (Freshness across
    OS processes rests on the 80 random bits; stated in the trusted base.) -/
theorem C09_tmp_names_tie :
    Generated.populateTmpFromGuid = true ∧ Generated.guidSharedOutsideLock = [] ∧
    Generated.guidLockEvents = ["lock", "unlock"] := ⟨rfl, rfl, rfl⟩

/-- non-vacuity (a test): two processes racing on the same ware, interleaved; both end `ok`, one shelf. -/
example :
    let s := runSchedule (initState [mkProc [1] false .copy (.ok [1]), mkProc [1] false .none_ (.ok [1])] [])
      [0, 1, 0, 1, 0, 1, 0, 1, 0, 0, 1, 1, 0, 1, 0, 1]
    s.procs.map (·.pc) = [.done (.ok [1]), .done (.ok [1])] ∧ s.shelves = [([1], .complete [1])] := by decide

/-- non-vacuity (a test): an altering request whose tool reports the requested id (git; `dev=ignore`), then a lossless
    request for the same ware: two shelves, the lossless one is not served from the filtered tree. -/
example :
    let s := runSchedule (initState [mkProc [1] true .copy (.ok [1]), mkProc [1] false .copy (.ok [1])] [])
      [0, 0, 0, 0, 0, 0, 0, 0, 1, 1, 1, 1, 1, 1, 1, 1]
    s.procs.map (·.pc) = [.done (.ok [1]), .done (.ok [1])] ∧
      s.shelves = [([1], .complete [1]), ([1, 0x2b], .complete [1, 0x2b])] := by decide

end Rio
