import Rio.Model.Asm14
import Rio.Proofs.Bytes
import Rio.Proofs.Sort
import Rio.Generated.Facts
/-!
# C14 — Tree assembly stays inside its root and is order-independent
-/
namespace Rio

/-- **Order independence**: for inputs with pairwise distinct paths, every listing order gives the same processing
    order and the same verdict of the mount rule — `Run` is a function of the *set* of inputs. -/
theorem C14_perm (xs ys : List AsmInput) (hp : xs.Perm ys) (hn : (xs.map (·.path)).Nodup) :
    asmPlan xs = asmPlan ys := by
  simp only [asmPlan, sortInputs]
  rw [sortBy_perm_eq hp hn]

/-- the duplicate-path loop of `Run` looks at neighbours only; on a sorted list that is enough: "no two neighbours
    share a path" is "no two inputs share a path" -/
theorem dupCheck_none_iff : ∀ (s : List AsmInput), s.Pairwise (fun a b => bytesLt b.path a.path = false) →
    (dupCheck s = none ↔ (s.map (·.path)).Nodup)
  | [], _ | [_], _ => by simp [dupCheck]
  | a :: b :: rest, hs => by
    have ih := dupCheck_none_iff (b :: rest) hs.tail
    rw [List.pairwise_cons] at hs
    rw [dupCheck]
    by_cases hab : a.path = b.path
    · simp [hab]
    · rw [if_neg hab, List.map_cons, List.nodup_cons, ih]
      refine ⟨fun h => ⟨fun hmem => ?_, h⟩, fun h => h.2⟩
      -- `a` sorts strictly before `b`, and nothing after `b` sorts before `b`
      have hlt := bytesLt_of_not_gt (hs.1 b List.mem_cons_self) hab
      obtain ⟨c, hc, hce⟩ := List.mem_map.1 hmem
      rcases List.mem_cons.1 hc with rfl | hc
      · exact hab hce.symm
      · rw [← hce, List.rel_of_pairwise_cons hs.2 hc] at hlt
        cases hlt

/-- **Two inputs at one path are refused, and only then** — the hypothesis of `C14_perm` is what `Run` itself checks
    (since the `fix:`; before, the input listed last silently shadowed the other, or — with a mount — the listing order
    decided between acceptance and refusal). -/
theorem C14_duplicate_iff (xs : List AsmInput) :
    (∃ d, asmVerdict xs = .duplicate d) ↔ ¬ (xs.map (·.path)).Nodup := by
  have hiff := dupCheck_none_iff (sortInputs xs) (pairwise_sortBy (·.path) xs)
  have hperm : ((sortInputs xs).map (·.path)).Nodup ↔ (xs.map (·.path)).Nodup :=
    ((perm_sortBy (·.path) xs).map _).nodup_iff
  unfold asmVerdict
  dsimp only
  rw [← hperm, ← hiff]
  cases dupCheck (sortInputs xs) with
  | some d => exact ⟨fun _ => nofun, fun _ => ⟨d, rfl⟩⟩
  | none =>
    refine ⟨?_, fun h => absurd rfl h⟩
    rintro ⟨d, h⟩
    dsimp only at h
    split at h <;> cases h

/-- **Order independence, no hypothesis**: two listings of the same inputs are both refused for a duplicate path, or get
    the very same verdict (same refused input, or same processing order). -/
theorem C14_total (xs ys : List AsmInput) (hp : xs.Perm ys) :
    asmVerdict xs = asmVerdict ys ∨ ((∃ d, asmVerdict xs = .duplicate d) ∧ (∃ d, asmVerdict ys = .duplicate d)) := by
  by_cases hn : (xs.map (·.path)).Nodup
  · left
    simp only [asmVerdict, sortInputs]
    rw [sortBy_perm_eq hp hn]
  · right
    have hn' : ¬ (ys.map (·.path)).Nodup := fun h => hn ((hp.map _).nodup_iff.2 h)
    exact ⟨(C14_duplicate_iff xs).2 hn, (C14_duplicate_iff ys).2 hn'⟩

/-- non-vacuity: a ware and a mount at one path, in both listing orders -/
example : (∃ d, asmVerdict [⟨[0x2f, 0x78], false, 0⟩, ⟨[0x2f, 0x78], true, 1⟩] = .duplicate d) ∧
    (∃ d, asmVerdict [⟨[0x2f, 0x78], true, 1⟩, ⟨[0x2f, 0x78], false, 0⟩] = .duplicate d) :=
  ⟨⟨⟨[0x2f, 0x78], false, 0⟩, by decide⟩, ⟨⟨[0x2f, 0x78], true, 1⟩, by decide⟩⟩

/-- the fixed containment test compares whole segments: `/ab` is not under `/a`, `/a/b` and `/a` are -/
theorem C14_segments :
    isUnderPath [0x2f, 0x61, 0x62] [0x2f, 0x61] = false ∧
    isUnderPath [0x2f, 0x61, 0x2f, 0x62] [0x2f, 0x61] = true ∧
    isUnderPath [0x2f, 0x61] [0x2f, 0x61] = true ∧
    isUnderPath [0x2f, 0x61, 0x2d, 0x62] [0x2f, 0x61] = false ∧
    isUnderPath [0x2f, 0x78] [0x2f] = true := by decide

/-- the pre-fix test refused a sibling that merely shares a string prefix -/
theorem C14_old_counter : isUnderPathOld [0x2f, 0x61, 0x62] [0x2f, 0x61] = true := by decide

/-- under-path implies the old string-prefix test (the fix only removes false rejections) -/
theorem C14_under_le_old (p base : Bytes) (hb : base ≠ [slash]) (h : isUnderPath p base = true) :
    isUnderPathOld p base = true := by
  unfold isUnderPathOld
  rw [hasPrefix_iff]
  simp only [isUnderPath, Bool.or_eq_true, decide_eq_true_eq, hasPrefix_iff] at h
  rcases h with (h | h) | h
  · -- under the root the fixed test accepts every `p`, also one that does not begin with `/`: hence `hb`
    exact absurd h hb
  · exact h ▸ List.prefix_refl _
  · exact (List.prefix_append _ _).trans h

/-- the loop passes its first input only if no mount so far contains it, and goes on with that input's own path among
    the mounts if it is one -/
theorem mountCheck_cons_none {y : AsmInput} {ys : List AsmInput} {ms : List Bytes} (h : mountCheck (y :: ys) ms = none) :
    (∀ m ∈ ms, isUnderPath y.path m = false) ∧ mountCheck ys (if y.isMount then y.path :: ms else ms) = none := by
  rw [mountCheck] at h
  split at h
  · cases h
  · next hany => exact ⟨fun m hm => Bool.eq_false_iff.2 fun hu => hany (List.any_eq_true.2 ⟨m, hm, hu⟩), h⟩

/-- once a path is in the mount set, an input at or below it is refused wherever it comes in the list -/
theorem mountCheck_ne_none {m : Bytes} {x : AsmInput} (hx : isUnderPath x.path m = true) {xs : List AsmInput} (hmem : x ∈ xs)
    {ms : List Bytes} (hm : m ∈ ms) : mountCheck xs ms ≠ none := by
  induction xs generalizing ms with
  | nil => cases hmem
  | cons y ys ih =>
    intro hn
    obtain ⟨hy, hrest⟩ := mountCheck_cons_none hn
    rcases List.mem_cons.1 hmem with rfl | hmem
    · exact Bool.false_ne_true ((hy m hm).symm.trans hx)
    · refine ih hmem ?_ hrest
      split
      · exact List.mem_cons_of_mem _ hm
      · exact hm

/-- a mount input refuses every later input at or below its path, wherever it sits in the sorted list -/
theorem C14_mount_refuses (pre : List AsmInput) (m x : AsmInput) (mid post : List AsmInput) (mounts : List Bytes)
    (hm : m.isMount = true) (hx : isUnderPath x.path m.path = true)
    (hpre : mountCheck (pre ++ m :: mid ++ x :: post) mounts = none) : False := by
  induction pre generalizing mounts with
  | nil =>
    have hrest := (mountCheck_cons_none hpre).2
    rw [if_pos hm] at hrest
    exact mountCheck_ne_none hx (List.mem_append_right _ List.mem_cons_self) List.mem_cons_self hrest
  | cons y ys ih => exact ih _ (mountCheck_cons_none hpre).2

/-- T-fact ties: the sort key and the containment test in the code are the modelled ones -/
theorem C14_ties : Generated.asmSortLess = "a[i].Path.String() < a[j].Path.String()" ∧
    Generated.asmMountTest = "isUnderPath(part.Path, mount)" := ⟨rfl, rfl⟩

end Rio
