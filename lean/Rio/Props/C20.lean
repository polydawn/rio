import Rio.Generated.Facts
/-!
# C20 — Reading operations leave their inputs untouched

T-fact tie: `Rio.Generated.*` is regenerated from the Go source on every run (`/verif/translate`).
The theorems below are closed by kernel evaluation over the whole (finite) generated table, so an
edit that makes the pack path call a mutating filesystem method, open a file with other flags, call
`os.*` directly, or gives nilfs access to the host, breaks one of them.
-/
namespace Rio

/-- the `fs.FS` methods that cannot change the filesystem (`OpenFile` only with `O_RDONLY`, see below) -/
def readOnlyFsMethods : List String :=
  ["BasePath", "Stat", "LStat", "ReadDirNames", "Readlink", "ResolveLink", "OpenFile"]

/-- every `fs.FS` method reachable from `Pack` / `packTar` / `packZip` / `fs.Walk` / `ScanFile` /
    `ApplyPackFilter` is a read-only one -/
theorem C20_pack_calls_readonly : ∀ c ∈ Generated.packFsCalls, c ∈ readOnlyFsMethods := by decide +kernel

/-- every `OpenFile` on the pack path passes `os.O_RDONLY` -/
theorem C20_pack_open_readonly : ∀ f ∈ Generated.packOpenFlags, f = "os.O_RDONLY" := by decide +kernel

/-- the pack path makes no direct `os` / `syscall` / `ioutil` call (everything goes through the handle) -/
theorem C20_pack_no_host_calls : Generated.packOsCalls = [] := rfl

/-- nilfs cannot touch the host: it imports neither `os` nor `syscall` (nor `io/ioutil`, `os/exec`, x/sys) -/
theorem C20_nilfs_pure : ∀ i ∈ Generated.nilfsImports,
    i ≠ "os" ∧ i ≠ "syscall" ∧ i ≠ "io/ioutil" ∧ i ≠ "os/exec" ∧ i ≠ "golang.org/x/sys/unix" := by decide +kernel

/-- mirror unpacks into nilfs only -/
theorem C20_mirror_nilfs : Generated.mirrorFs = ["nilFS.New()", "nilFS.New()"] := rfl

/-- warehouses are opened for reading with `O_RDONLY` (non-blocking since `fix:` 90614d8, so that a fifo at the address
    cannot hold the fetch; no access-mode or creation bit) -/
theorem C20_reader_readonly : Generated.kvfsReaderFlags = ["os.O_RDONLY | syscall.O_NONBLOCK"] := rfl

end Rio
