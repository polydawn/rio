import Rio.Proofs.UnpackNoPanic
/-!
# C17 — Every failure is a categorized rio error; bad input never crashes

`exitCode` models `rio.ExitCodeForCategory` over `rio.ErrorTable`; `requireRio` models the deferred
`RequireErrorHasCategory(&err, rio.ErrorCategory(""))` every public entry point carries.
`unpackTar` (Rio/Model/Tar.lean) returns `ok | err cat | panic`.
-/
namespace Rio

/-- every documented rio category has exactly one exit code, never 0 and never 2 (reserved for crashes) -/
theorem C17_table_total (c : Cat) (h : c.isRio = true) : ∃ n, exitCode c = some n ∧ n ≠ 0 ∧ n ≠ 2 := by
  -- a row of the table, or `h` is `false = true`
  cases c <;> first | exact ⟨_, rfl, by decide, by decide⟩ | cases h

/-- reads `rio.ErrorTable` backwards; codes that are not in the table go to a category that has none -/
def catOfExit : Nat → Cat
  | 1 => .usage | 3 => .whUnavailable | 4 => .whUnwritable | 5 => .wareNotFound
  | 6 => .wareCorrupt | 7 => .hashMismatch | 8 => .cancelled | 9 => .localCache
  | 10 => .assemblyInvalid | 11 => .packInvalid | 12 => .inoperablePath
  | 13 => .filterRejection | 120 => .rpcBreakdown
  | _ => .uncategorized

theorem catOfExit_exitCode (c : Cat) (h : c.isRio = true) : (exitCode c).map catOfExit = some c := by
  cases c <;> first | rfl | cases h

/-- the exit-code map is injective on documented categories -/
theorem C17_table_injective (c d : Cat) (hc : c.isRio = true) (hd : d.isRio = true)
    (h : exitCode c = exitCode d) : c = d := by
  have e := catOfExit_exitCode c hc
  rw [h, catOfExit_exitCode d hd] at e
  exact (Option.some.inj e).symm

/-- any other category makes `ExitCodeForCategory` panic (model: `none`) — this is why an uncategorised
    error reaching the CLI is a crash. -/
theorem C17_table_partial (c : Cat) (h : c.isRio = false) : exitCode c = none := by
  cases c <;> first | rfl | cases h

/-- the deferred category filter maps every error to a rio category or to the errcat red flag, for which
    no exit code exists -/
theorem C17_require (c : Cat) : (requireRio c).isRio = true ∨ requireRio c = .errcatRejection := by
  unfold requireRio
  split
  · exact .inl ‹_›
  · exact .inr rfl

/-- the tar entry loop turns a header-conversion failure into `ware-corrupt`, never into a panic -/
theorem C17_hdr_never_panics (h : TarHdr) : (∃ m, tarHdrToMeta h = .meta_ m) ∨ tarHdrToMeta h = .skip ∨
    tarHdrToMeta h = .halt .wareCorrupt := by
  obtain e | e | ⟨m, e, _⟩ := tarHdrToMeta_cases h
  · exact .inr (.inl e)
  · exact .inr (.inr e)
  · exact .inl ⟨m, e⟩

/-! ## No panic, for every input (model level; the invariants are in `Rio/Proofs/{NoCrash,UnpackNoPanic}.lean`) -/

/-- **`HashBucket` never crashes** on a non-empty bucket whose keys are distinct and root-anchored: its only failures
    are the `ErrInvalidFilesystem` panics (missing root, repeated path, missing tree) that the unpackers recover —
    never `index out of range`, `visited k of n nodes` or `slice bounds out of range`. -/
theorem C17_hash_never_crashes (H : Bytes → Bytes) (recs : List Record) (hne : recs ≠ [])
    (hn : (recs.map (·.name)).Nodup) (ha : ∀ r ∈ recs, Anchored r) :
    ∀ p, hashBucket H recs = .error p → p.crashes = false :=
  hashBucket_no_crash H recs hne hn ha

/-- **The tar unpack loop never panics**: for every header list `archive/tar` can hand over (any names — absolute,
    climbing, repeated, children of files —, any type flags, sizes, ids, times), every stream end, every filter
    (including `mtime=now`, reject and ignore rules), every behaviour of the filesystem operations (`ops` is
    arbitrary: any operation may fail at any time) and every hash function, the outcome is `ok` or an error
    category.  The invariant of the loop (`UInv`): bucket keys distinct and anchored, filtered keys among the
    prefilter keys, every directory record in the `dirs` set, and equal buckets under a non-altering filter (so the
    `prefilterHash != filteredHash` paranoia check cannot fire).  Setting up this proof exposed the empty filtered
    bucket (`fix:` 4f5272d). -/
theorem C17_unpack_never_panics {σ : Type} (H : Bytes → Bytes) (ops : FsOps σ) (myUid myGid : Nat)
    (filt : UnpackFilter) (hdrs : List TarHdr) (fin : StreamEnd) (s0 : σ) (head : Bytes) (w : String) :
    unpackTar H ops myUid myGid filt hdrs fin s0 head ≠ .panic w := by
  rw [unpackTar_eq]
  refine Outcome.Sat.ne_panic (P := fun _ => True) (Outcome.sat_ite_err fun _ => ?_) w
  refine (unpackEntries_sat ops myUid myGid filt hdrs _ (uinv_init filt s0)).elim (fun _ => trivial) fun st hi => ?_
  exact Outcome.sat_ite_err fun _ => finishUnpack_sat H ops filt st hi

/-- **The zip owner parser never indexes out of range**: for every byte string in an entry's extra field — blocks cut
    short, sizes that announce more than there is, repeated ids, a field ending inside a block header —
    `zipFileOwnership` (model `zipOwnership`: every slice and index expression of `parseZipExtraHeader`,
    `parseUnix3Header`, `parseUnix2Header` made explicit) answers an owner pair or `rio-ware-corrupt`.  The proof
    obligation for the gid slice of `parseUnix3Header` could not be discharged on the code as it was: a Unix3 block of
    7–10 bytes panicked (`fix:` 7b9f8bb). -/
theorem C17_zip_owner_never_panics (extra : Bytes) : zipOwnership extra ≠ .panic :=
  zipOwnership_never_panics extra

/-- the error branch is reachable and is the one the fix introduced (test): a Unix3 block of seven data bytes
    announcing a four-byte gid -/
example : zipOwnership [0x75, 0x78, 7, 0, 1, 4, 3, 4, 5, 6, 2] = .corrupt := by decide

/-- **The zip unpack loop never panics**: for every entry list `archive/zip` can hand over (any names, any
    `os.FileMode` — devices, fifos, sockets, irregular —, any extra field, any time, bodies that fail to open or to
    read), every filter, every behaviour of the filesystem operations (`ops` is arbitrary) and every hash function,
    the outcome of `unpackZip` is `ok` or an error category.  Same loop invariant as for tar (`UInv`); the per-entry
    step (`zentry_sat`) differs in the header conversion, in reading a symlink's target from its body and in refusing
    every other type.  The zip twin of the empty-filtered-bucket defect was found while this model was being written
    (`fix:` 2d9423e). -/
theorem C17_unpackzip_never_panics {σ : Type} (H : Bytes → Bytes) (ops : FsOps σ) (myUid myGid : Nat)
    (filt : UnpackFilter) (hdrs : List ZipHdr) (readable : Bool) (s0 : σ) (w : String) :
    unpackZip H ops myUid myGid filt hdrs readable s0 ≠ .panic w := by
  unfold unpackZip
  refine Outcome.Sat.ne_panic (P := fun _ => True) (Outcome.sat_ite_err fun _ => ?_) w
  exact (zentries_sat ops myUid myGid filt hdrs _ (uinv_init filt s0)).elim (fun _ => trivial)
    (finishUnpack_sat H ops filt)

end Rio
