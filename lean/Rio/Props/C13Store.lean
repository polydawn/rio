import Rio.Model.MirrorStore
import Rio.Props.C13
/-!
# C13 over a target that has content

For a **content-addressed** target the property holds by an invariant of the store (every object scans to the id of its
address): after a successful mirror the target alone serves W, and mirroring again is a no-op that needs no source.
For a **single-address** (`file://`) target it holds with no hypothesis at all, because the first probe reads an
object at such an address through and takes it for W only if it scans to W (`Target.holds`): `C13_mono_serves`, with
`C13_mono_other_ware` as the witness of a target that holds another ware (before the `fix:` any object at the address
counted as W: the former known finding `mirror-noop-other-ware`).
-/
namespace Rio

/-- every object of the store scans to the id of its address (content addressing) -/
def CAInv (H : Bytes → Bytes) (t : Target) : Prop := ∀ id s, t.objs id = some s → scanId H s = .ok id

theorem Target.objs_put (t : Target) (req : Bytes) (src : Stored) (a : Bytes) :
    (t.put req src).objs a = if a = t.addr req then some src else t.objs a :=
  rfl

theorem lookup_put (t : Target) (req : Bytes) (src : Stored) : (t.put req src).lookup req = some src :=
  if_pos rfl

theorem Target.addr_ca {t : Target} (hk : t.kind = .ca) (id : Bytes) : t.addr id = id := by
  unfold Target.addr
  rw [hk]

/-- the first probe says yes: an object is at the address, and it is taken for W (content-addressed) or scans to W -/
theorem Target.holds_iff (H : Bytes → Bytes) (t : Target) (req : Bytes) :
    t.holds H req = true ↔ ∃ s, t.lookup req = some s ∧ (t.kind = .ca ∨ scanId H s = .ok req) := by
  unfold Target.holds
  cases t.lookup req <;> simp

/-- the target alone serves `id`: an object is at the address and scans to `id` -/
theorem fetchAlone_ok_iff (H : Bytes → Bytes) (t : Target) (id : Bytes) :
    fetchAlone H t id = .ok () ↔ ∃ s, t.lookup id = some s ∧ scanId H s = .ok id := by
  unfold fetchAlone
  cases t.lookup id with
  | none => simp
  | some s => cases hs : scanId H s <;> simp [hs]

/-- every mirror run: either the target is left as it is — and then the run succeeds only if the first probe found W —
    or it succeeds and the source's object, which scans to the requested id, is put at the address -/
theorem mirrorStore_cases (H : Bytes → Bytes) (req : Bytes) (t : Target) (writerOk : Bool) (pick : PickRes) (src : Stored)
    (commitOk : Bool) :
    ((mirrorStore H req t writerOk pick src commitOk).2 = t ∧ ((mirrorStore H req t writerOk pick src commitOk).1 = .ok () → t.holds H req = true)) ∨
    (mirrorStore H req t writerOk pick src commitOk = (.ok (), t.put req src) ∧ scanId H src = .ok req) := by
  unfold mirrorStore
  cases t.holds H req with
  | true => exact Or.inl ⟨rfl, fun _ => rfl⟩
  | false =>
    cases hr : (mirror H req false writerOk pick src.hdrs src.fin src.head commitOk).1 with
    | err _ | panic _ => exact Or.inl ⟨rfl, fun h => nomatch h⟩
    | ok u =>
      obtain ⟨hev, -, post, hscan⟩ := C13_served H req writerOk pick src.hdrs src.fin src.head commitOk hr
      rw [hev]
      -- `.commit` is among the events, which `rfl` finds by evaluation: `applyMirror` puts the source's object at the address
      refine Or.inr ⟨rfl, ?_⟩
      -- `hscan` has `losslessUF` written out
      unfold scanId losslessUF
      rw [hscan]

/-- **The store invariant is preserved by every mirror** (content-addressed target). -/
theorem C13_ca_inv (H : Bytes → Bytes) (req : Bytes) (t : Target) (hk : t.kind = .ca) (writerOk : Bool) (pick : PickRes)
    (src : Stored) (commitOk : Bool) (h : CAInv H t) :
    CAInv H (mirrorStore H req t writerOk pick src commitOk).2 := by
  rcases mirrorStore_cases H req t writerOk pick src commitOk with ⟨ht, _⟩ | ⟨ht, hs⟩
  · rw [ht]
    exact h
  · rw [ht]
    intro id s hs'
    rw [Target.objs_put, Target.addr_ca hk] at hs'
    by_cases e : id = req
    · rw [if_pos e] at hs'
      cases hs'
      rw [e]
      exact hs
    · rw [if_neg e] at hs'
      exact h id s hs'

/-- **After a successful mirror the target alone serves W** — for a single-address target unconditionally; for a
    content-addressed one under the store's invariant at that address (supplied by `CAInv` in `C13_ca_serves`). -/
theorem C13_serves (H : Bytes → Bytes) (req : Bytes) (t : Target) (writerOk : Bool)
    (pick : PickRes) (src : Stored) (commitOk : Bool)
    (hyp : t.kind = .ca → ∀ s, t.lookup req = some s → scanId H s = .ok req)
    (hok : (mirrorStore H req t writerOk pick src commitOk).1 = .ok ()) :
    fetchAlone H (mirrorStore H req t writerOk pick src commitOk).2 req = .ok () := by
  rw [fetchAlone_ok_iff]
  rcases mirrorStore_cases H req t writerOk pick src commitOk with ⟨ht, hh⟩ | ⟨ht, hs⟩
  · obtain ⟨s, hl, hw⟩ := (Target.holds_iff H t req).1 (hh hok)
    rw [ht]
    exact ⟨s, hl, hw.elim (fun hk => hyp hk s hl) id⟩
  · rw [ht]
    exact ⟨src, lookup_put t req src, hs⟩

/-- **C13 for a single-address (`file://`) target, whatever it held before** (another ware, garbage, nothing). -/
theorem C13_mono_serves (H : Bytes → Bytes) (req : Bytes) (t : Target) (hk : t.kind = .mono) (writerOk : Bool)
    (pick : PickRes) (src : Stored) (commitOk : Bool)
    (hok : (mirrorStore H req t writerOk pick src commitOk).1 = .ok ()) :
    fetchAlone H (mirrorStore H req t writerOk pick src commitOk).2 req = .ok () :=
  C13_serves H req t writerOk pick src commitOk (fun h => by rw [hk] at h; cases h) hok

/-- **After a successful mirror the content-addressed target alone serves W** — no hypothesis on what the address held:
    the store invariant supplies it. -/
theorem C13_ca_serves (H : Bytes → Bytes) (req : Bytes) (t : Target) (hk : t.kind = .ca) (writerOk : Bool)
    (pick : PickRes) (src : Stored) (commitOk : Bool) (h : CAInv H t)
    (hok : (mirrorStore H req t writerOk pick src commitOk).1 = .ok ()) :
    fetchAlone H (mirrorStore H req t writerOk pick src commitOk).2 req = .ok () := by
  apply C13_serves H req t writerOk pick src commitOk _ hok
  intro _ s hl
  apply h req s
  rw [Target.lookup, Target.addr_ca hk] at hl
  exact hl

/-- **Mirroring again is a no-op that needs no source** (any target kind): once the target holds W (`Target.holds`),
    mirror succeeds whatever the sources answer, opens no writer and leaves the target as it is. -/
theorem C13_again_noop (H : Bytes → Bytes) (req : Bytes) (t : Target) (writerOk : Bool) (pick : PickRes) (src : Stored)
    (commitOk : Bool) (hhas : t.holds H req = true) :
    mirrorStore H req t writerOk pick src commitOk = (.ok (), t) := by
  unfold mirrorStore
  rw [hhas]
  rfl

/-- after a successful mirror the target holds W in the sense of the probe: the next mirror is the no-op above -/
theorem C13_then_holds (H : Bytes → Bytes) (req : Bytes) (t : Target) (writerOk : Bool)
    (pick : PickRes) (src : Stored) (commitOk : Bool)
    (hok : (mirrorStore H req t writerOk pick src commitOk).1 = .ok ()) :
    (mirrorStore H req t writerOk pick src commitOk).2.holds H req = true := by
  rcases mirrorStore_cases H req t writerOk pick src commitOk with ⟨ht, hh⟩ | ⟨ht, hs⟩
  · rw [ht]
    exact hh hok
  · rw [ht, Target.holds_iff]
    exact ⟨src, lookup_put t req src, Or.inr hs⟩

/-! The witnesses take the identity for the hash: the id is the pre-image itself. -/

def exHdr (name : Bytes) (tf : UInt8) (ch : Bytes) : TarHdr :=
  { name := name, typeflag := tf, mode := 0o644, uid := 0, gid := 0, size := 1, linkname := [], devmajor := 0, devminor := 0,
    mtime := ⟨1000000000, 0⟩, xattrs := [], chash := ch, bodyOk := true }
/-- two wares: `./` + a file `a` whose body hashes to `[1]` resp. `[2]` -/
def exWareA : Stored := ⟨[exHdr [46, 47] 53 [], exHdr [97] 48 [1]], .eof, List.replicate 10 0⟩
def exWareB : Stored := ⟨[exHdr [46, 47] 53 [], exHdr [97] 48 [2]], .eof, List.replicate 10 0⟩
def exIdOf (s : Stored) : Bytes := match scanId (fun b => b) s with | .ok i => i | _ => []
def exMonoHoldingA : Target := ⟨.mono, fun a => if a = [] then some exWareA else none⟩
def exCaEmpty : Target := ⟨.ca, fun _ => none⟩

/-- both wares scan, to different ids; one evaluation, so that each ware is scanned once -/
theorem exScans :
    scanId (fun b => b) exWareA = .ok (exIdOf exWareA) ∧ scanId (fun b => b) exWareB = .ok (exIdOf exWareB) ∧
    exIdOf exWareA ≠ exIdOf exWareB := by
  decide +kernel

/-- **The former counter-example** (`mirror-noop-other-ware`): the `file://` address holds ware A. A mirror of B ≠ A into
    it with no source at all is no longer a success — it answers ware-not-found and leaves A in place; with a source that
    serves B it succeeds, and the target alone then serves B. -/
theorem C13_mono_other_ware :
    scanId (fun b => b) exWareA = .ok (exIdOf exWareA) ∧ scanId (fun b => b) exWareB = .ok (exIdOf exWareB) ∧
    exIdOf exWareA ≠ exIdOf exWareB ∧
    mirrorStore (fun b => b) (exIdOf exWareB) exMonoHoldingA true (.err .wareNotFound) exWareB true
      = (.err .wareNotFound, exMonoHoldingA) ∧
    (mirrorStore (fun b => b) (exIdOf exWareB) exMonoHoldingA true (.opened 0) exWareB true).1 = .ok () ∧
    fetchAlone (fun b => b) (mirrorStore (fun b => b) (exIdOf exWareB) exMonoHoldingA true (.opened 0) exWareB true).2
      (exIdOf exWareB) = .ok () := by
  obtain ⟨hA, hB, hne⟩ := exScans
  refine ⟨hA, hB, hne, ?_, by decide +kernel⟩
  -- a `Target` holds a function, so this conjunct is not decidable as it stands: the probe finds A, which is not B
  have hh : exMonoHoldingA.holds (fun b => b) (exIdOf exWareB) = false := by
    simp [Target.holds, Target.lookup, Target.addr, exMonoHoldingA, hA, hne]
  unfold mirrorStore
  rw [hh]
  rfl

/-- non-vacuity of `C13_ca_serves`: an empty content-addressed target satisfies the invariant, a mirror of B from a source
    that serves B succeeds, and the target then serves B; mirroring again needs no source -/
example : CAInv (fun b => b) exCaEmpty := fun _ _ h => nomatch h
example :
    (mirrorStore (fun b => b) (exIdOf exWareB) exCaEmpty true (.opened 0) exWareB true).1 = .ok () ∧
    fetchAlone (fun b => b) (mirrorStore (fun b => b) (exIdOf exWareB) exCaEmpty true (.opened 0) exWareB true).2 (exIdOf exWareB) = .ok () ∧
    (mirrorStore (fun b => b) (exIdOf exWareB)
      (mirrorStore (fun b => b) (exIdOf exWareB) exCaEmpty true (.opened 0) exWareB true).2 true (.err .whUnavailable) exWareA true).1 = .ok () := by
  decide +kernel

end Rio
