import Rio.Model.Shelf
import Rio.Proofs.Warehouse
import Rio.Generated.Facts
/-!
# C03 / C09 — a ware ID names one shelf, and no shelf lies inside another

The fileset cache answers an unpack of W from `ShelfFor(W)` without fetching anything, so the map from IDs to shelf
paths has to be such that no ID's path is *inside* another ID's shelf.  With hashes that are single path segments it
is (`C03_shelves_not_nested`); without that guard it is not (`C03_counter_nested_shelf`, the defect repaired by
`fix:` 4bfc970 and exhibited on the implementation by the `fetch` stream's sub-path requests).
-/
namespace Rio

theorem slash_not_mem_of_oneSegment {h : Bytes} (hh : hashIsOneSegment h = true) : slash ∉ h := by
  simp only [hashIsOneSegment, Bool.and_eq_true, Bool.not_eq_true', List.contains_eq_mem, decide_eq_false_iff_not] at hh
  exact hh.1.1.1

/-- the two directory chunks are pieces of the hash, padded with `-` -/
theorem chunk_no_slash {h : Bytes} (hs : slash ∉ h) :
    slash ∉ (chunkifyHash h).1 ∧ slash ∉ (chunkifyHash h).2.1 := by
  have pad : slash ∉ (if h.length < 7 then h ++ List.replicate (7 - h.length) 0x2d else h) := by
    split
    · intro hx
      rcases List.mem_append.1 hx with hx | hx
      · exact hs hx
      · exact absurd (List.mem_replicate.1 hx).2 (by decide)
    · exact hs
  exact ⟨fun hx => pad (List.mem_of_mem_take hx), fun hx => pad (List.mem_of_mem_drop (List.mem_of_mem_take hx))⟩

theorem shelf_slashes (ty : Bytes) {h : Bytes} (hs : slash ∉ h) :
    (shelfStr ty h).count slash = ty.count slash + 4 := by
  have hc := chunk_no_slash hs
  have hf : filesetWord.count slash = 0 := by decide
  unfold shelfStr
  simp only [List.count_append, List.count_eq_zero.2 hc.1, List.count_eq_zero.2 hc.2, List.count_eq_zero.2 hs, hf,
    List.count_singleton_self]

theorem count_append_slash (a b : Bytes) : (a ++ b).count slash = a.count slash + b.count slash := List.count_append

/-- **No shelf lies inside another**: for two IDs of one pack type whose hashes are single segments, the path of one
    is never the path of the other followed by `/…`. -/
theorem C03_shelves_not_nested (ty a b rest : Bytes) (ha : hashIsOneSegment a = true) (hb : hashIsOneSegment b = true) :
    shelfStr ty a ≠ shelfStr ty b ++ [slash] ++ rest := by
  intro e
  -- both shelf paths have the same number of slashes; the right side has at least one more
  have := congrArg (List.count slash) e
  rw [List.count_append, List.count_append, shelf_slashes ty (slash_not_mem_of_oneSegment ha),
    shelf_slashes ty (slash_not_mem_of_oneSegment hb), List.count_singleton_self] at this
  omega

/-- **Why the guard is needed**: without it, the ID `<H>/<sub>` (H at least six bytes long) names the entry `sub`
    *inside* the shelf of H — an unverified piece of another ware, served as a cache hit. -/
theorem C03_counter_nested_shelf (ty H sub : Bytes) (hl : 7 ≤ H.length) :
    shelfStr ty (H ++ [slash] ++ sub) = shelfStr ty H ++ [slash] ++ sub := by
  have t3 : (H ++ [slash] ++ sub).take 3 = H.take 3 := by
    rw [List.append_assoc, List.take_append_of_le_length (by omega)]
  have d3 : ((H ++ [slash] ++ sub).drop 3).take 3 = (H.drop 3).take 3 := by
    rw [List.append_assoc, List.drop_append_of_le_length (by omega), List.take_append_of_le_length (by simp; omega)]
  unfold shelfStr
  rw [chunkifyHash_of_long hl, chunkifyHash_of_long (h := H ++ [slash] ++ sub) (by simp; omega)]
  simp only [t3, d3]
  simp only [List.append_assoc]

/-- the guard does refuse that ID -/
theorem C03_guard_refuses (H sub : Bytes) : hashIsOneSegment (H ++ [slash] ++ sub) = false :=
  Bool.eq_false_iff.2 fun h => slash_not_mem_of_oneSegment h (by simp)

/-- T-fact tie: `cache.Unpack` checks the hash before it builds the shelf path. -/
theorem C03_cache_guard_tie : Generated.cacheUnpackHashGuard = "strings.ContainsAny(wareID.Hash, \"/\\x00\") || wareID.Hash == \".\" || wareID.Hash == \"..\"" := rfl

end Rio
