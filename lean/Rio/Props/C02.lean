import Rio.Model.Pack
import Rio.Proofs.DevModes
import Rio.Proofs.RecordName
import Rio.Generated.Facts
import Rio.Proofs.ZipHdr
/-!
# C02 — Pack then unpack reproduces the fileset exactly

Header-level theorems (what is handed to `archive/tar` comes back unchanged from it, field by field).
The filesystem-level round trip is decided by the `rt` stream (real kernel) together with the pack
model's id prediction; see DESIGN.md for what is proved and what is correspondence-only.
-/
namespace Rio

/-- every packable kind survives the tar type mapping -/
theorem C02_type_roundtrip (k : Kind) (t : UInt8) (h : fsTypeToTarType k = some t) :
    tarTypeToFsType t = .kind k := by
  cases k <;> cases h <;> decide

/-- sockets and invalid types are refused at pack time (a panic in `fsTypeToTarType`; modelled as `none`) -/
theorem C02_unpackable_kinds (k : Kind) : fsTypeToTarType k = none ↔ (k = .socket ∨ k = .invalid) := by
  cases k <;> decide

/-- what `tarHdrToMeta` does to the header's integer fields (`% 4096` on the mode, `toU32` on the ids) leaves a value in
    range as it is -/
theorem toNat_emod_of_lt {n k : Nat} (h : n < k) : ((n : Int) % (k : Int)).toNat = n := by
  rw [← Int.natCast_emod, Int.toNat_natCast, Nat.mod_eq_of_lt h]

/-- what `MetadataToTarHdr` writes, when `fsTypeToTarType` does not panic -/
theorem metaToTarHdr_eq_some {m : Meta} {ch : Bytes} {h : TarHdr} (h1 : metaToTarHdr m ch = some h) :
    ∃ t, fsTypeToTarType m.kind = some t ∧
      h = { name := recordName m, typeflag := t, mode := m.perms, uid := m.uid, gid := m.gid, size := m.size,
            linkname := m.linkname, devmajor := m.devmajor, devminor := m.devminor, mtime := m.mtime,
            xattrs := m.xattrs, chash := ch, bodyOk := true } := by
  unfold metaToTarHdr at h1
  cases hk : fsTypeToTarType m.kind with
  | none => simp [hk] at h1
  | some t =>
    simp only [hk, Option.map_some, Option.some.injEq] at h1
    exact ⟨t, rfl, h1.symm⟩

/-- **Header round trip (all fields but the name).** For metadata in the format's domain
    (permission bits < 07777+1, ids < 2^32) the header written by `MetadataToTarHdr`, read back by
    `TarHdrToMetadata`, yields the same type, permission bits (setuid/setgid/sticky included), owner,
    group, size, link target, device numbers, mtime and xattrs. -/
theorem C02_hdr_fields (m : Meta) (ch : Bytes) (h : TarHdr) (m' : Meta)
    (hp : m.perms < 4096) (hu : m.uid < 4294967296) (hg : m.gid < 4294967296)
    (h1 : metaToTarHdr m ch = some h) (h2 : tarHdrToMeta h = .meta_ m') :
    m'.kind = m.kind ∧ m'.perms = m.perms ∧ m'.uid = m.uid ∧ m'.gid = m.gid ∧ m'.size = m.size ∧
    m'.linkname = m.linkname ∧ m'.devmajor = m.devmajor ∧ m'.devminor = m.devminor ∧
    m'.mtime = m.mtime ∧ m'.xattrs = m.xattrs := by
  obtain ⟨t, hk, rfl⟩ := metaToTarHdr_eq_some h1
  unfold tarHdrToMeta at h2
  simp only [C02_type_roundtrip m.kind t hk] at h2
  cases hn : mustRel (recordName m) with
  | none => simp [hn] at h2
  | some n =>
    simp only [hn] at h2
    injection h2 with h2
    subst h2
    exact ⟨rfl, toNat_emod_of_lt hp, toNat_emod_of_lt hu, toNat_emod_of_lt hg, rfl, rfl, rfl, rfl, rfl, rfl⟩

/-- tar keeps seconds only: the packed record's mtime is the entry's mtime with the nanoseconds dropped,
    and nothing else of the (filtered) metadata changes on the way into the bucket. -/
theorem C02_pack_seconds (ff : PackFilter) (e : FsEntry) (b b' : Bucket) (m : Meta)
    (hf : applyPackFilter ff e.m = .ok m) (hk : m.kind ≠ .invalid)
    (h : packEntry .tar ff e b = .ok b') :
    b' = b.add { m with mtime := ⟨m.mtime.sec, 0⟩ } (if m.kind = .file then e.chash else []) := by
  unfold packEntry at h
  rw [hf] at h
  simp only [if_neg hk] at h
  split at h
  · cases h
  · split at h
    · cases h
    · exact (Outcome.ok.inj h).symm

/-- **Header round trip, the name**: the name written into the header (`String()`, plus `/` for a directory) is
    parsed back by `TarHdrToMetadata` to the very same path value (split index included), for every canonical name. -/
theorem C02_hdr_name (m : Meta) (ch : Bytes) (h : TarHdr) (m' : Meta) (hc : m.name.Clean)
    (h1 : metaToTarHdr m ch = some h) (h2 : tarHdrToMeta h = .meta_ m') : m'.name = m.name := by
  obtain ⟨t, hk, rfl⟩ := metaToTarHdr_eq_some h1
  unfold tarHdrToMeta at h2
  simp only [mustRel_recordName m hc, C02_type_roundtrip m.kind t hk] at h2
  injection h2 with h2
  subst h2
  rfl

/-- **Device numbers survive `mknod` + `lstat`**: `devModesSplit (devModesJoin major minor) = (major, minor)` for
    12-bit majors and 20-bit minors (the kernel's `dev_t` layout). -/
theorem C02_dev_roundtrip (major minor : Nat) (h1 : major < 4096) (h2 : minor < 2 ^ 20) :
    devSplit (devJoin major minor) = (major, minor) :=
  dev_roundtrip major minor h1 h2

/-- T-fact tie: the two expressions in the source are the ones the model `devJoin` / `devSplit` mirrors -/
theorem C02_dev_tie :
    Generated.devModesJoinExpr = "uint32(((minor & 0xfff00) << 12) | ((major & 0xfff) << 8) | (minor & 0xff))" ∧
    Generated.devModesSplitExpr = "int64((rdev >> 8) & 0xfff) ; int64((rdev & 0xff) | ((rdev >> 12) & 0xfff00))" := ⟨rfl, rfl⟩

/-- the layout matters beyond 8 bits (a test): minor 300 / major 259 -/
example : devSplit (devJoin 259 70000) = (259, 70000) ∧ devJoin 136 300 = 0x10882c := by decide

/-- **uid and gid survive the zip header**, all 32 bits of each: what `MetadataToZipHdr` writes into the extra field
    (a Unix2 block when both fit 16 bits, then a Unix3 block) is read back by `zipFileOwnership` as the same pair. -/
theorem C02_zip_owner_roundtrip (uid gid : Nat) (hu : uid < 2 ^ 32) (hg : gid < 2 ^ 32) :
    zipOwnership (ownerExtra uid gid) = .ok uid gid :=
  zipOwnership_written uid gid hu hg

/-- and a foreign archive that carries only the older Unix2 block (16-bit ids) is read as that pair too -/
theorem C02_zip_owner_unix2_only (uid gid : Nat) (hu : uid < 65536) (hg : gid < 65536) :
    zipOwnership (unix2Extra uid gid) = .ok uid gid :=
  zipOwnership_unix2_only uid gid hu hg

/-- **What a zip pack files is something a zip unpack takes**: an entry that `packZip` adds to the bucket (and writes) is —
    after the pack filter — a regular file, a directory or a symlink; fifos, sockets and device nodes are refused with
    `rio-pack-invalid` (`fix:`: before, the pack answered an id for them and committed a ware that `unpackZip` refuses, or
    — a character device — reads back as an empty regular file). -/
theorem C02_zip_pack_kinds (filt : PackFilter) (e : FsEntry) (b b' : Bucket) (h : packEntry .zip filt e b = .ok b') :
    b' = b ∨ ∃ m, applyPackFilter filt e.m = .ok m ∧ (m.kind = .file ∨ m.kind = .dir ∨ m.kind = .symlink) := by
  unfold packEntry at h
  cases hf : applyPackFilter filt e.m with
  | error c => simp [hf] at h
  | ok m =>
    simp only [hf] at h
    by_cases hi : m.kind = .invalid
    · rw [if_pos hi] at h
      exact .inl (Outcome.ok.inj h).symm
    · refine .inr ⟨m, rfl, Decidable.by_contra fun hn => ?_⟩
      rw [not_or, not_or] at hn
      rw [if_neg hi, if_pos hn] at h
      cases h

end Rio
