import Rio.Proofs.KvfsFs
import Rio.Generated.Facts
/-!
# C08 over a shared staging namespace

`Rio/Props/C08.lean` proves the property for writers that each have a staging file of their own.  Here that
assumption is discharged from what the code does: staging files live in one directory, a writer addresses its
file by **name** when it renames and when it cleans up, and by **descriptor** when it writes.  The theorem needs
only that the names of the writers are pairwise different (a guid per `OpenWriter`, tied below); the two
counter-theorems show that nothing weaker will do.
-/
namespace Rio

/-- **C08, shared namespace**: any number of writers with pairwise different staging names, either open mode, any
    schedule, any failing steps, any crashes: whatever a reader finds at a final address is a complete ware. -/
theorem C08_shared_namespace (cm : List (WareId × List Chunk)) (ws : List FWriter) (excl : Bool)
    (sched : List (Nat × Fault))
    (hpc : ∀ w ∈ ws, w.pc = .opening) (hc : ∀ w ∈ ws, (w.key, w.chunks) ∈ cm)
    (hn : ∀ (i j : Nat) (wi wj : FWriter), ws[i]? = some wi → ws[j]? = some wj → wi.name = wj.name → i = j)
    (k : WareId) (cells : List Cell) (hr : readFinal (frun excl (fsInit ws) sched) k = some cells) :
    ∃ ch, (k, ch) ∈ cm ∧ cells = ch.map some := by
  obtain ⟨j, hf, rfl⟩ := Option.map_eq_some_iff.1 hr
  obtain ⟨_, ch, hc', hfile⟩ := (finv_run excl sched (finv_init hpc hc hn)).finalsOk k j hf
  exact ⟨ch, hc', hfile⟩

/-- the hypotheses are satisfiable, and the conclusion is not vacuous: two writers of different names, interleaved,
    both commit; the address holds the second committer's ware -/
example :
    let a := mkFWriter [1] 10 [.body 0, .flush 1]
    let b := mkFWriter [1] 11 [.body 5]
    let s := frun true (fsInit [a, b])
      [(0, .ok), (0, .ok), (1, .ok), (1, .ok), (1, .ok), (1, .ok), (1, .ok), (1, .ok), (0, .ok), (0, .ok), (0, .ok), (0, .ok), (0, .ok)]
    readFinal s [1] = some [some (.body 0), some (.flush 1)] := by decide

/-- **Without fresh names and without `O_EXCL`** (the shared, truncated staging file): writer 0 is held after its
    first chunk, writer 1 — same staging name — opens (truncating), writes its ware, commits; writer 0 then writes its
    second chunk through its descriptor into the inode that now *is* the final address. A reader finds a ware that is
    nobody's. Replayed on the implementation by the `kvfs-overlap` stream. -/
theorem C08_counter_shared_trunc :
    let a := mkFWriter [1] 7 [.body 0, .body 1]
    let b := mkFWriter [1] 7 [.body 5]
    let s := frun false (fsInit [a, b])
      [(0, .ok), (0, .ok), (1, .ok), (1, .ok), (1, .ok), (1, .ok), (1, .ok), (0, .ok)]
    readFinal s [1] = some [some (.body 5), some (.body 1)] := by decide

/-- **`O_EXCL` alone does not rescue colliding names**: writer 0 commits and has its deferred `Close` pending; writer 1
    (same name) opens — the name is free again — and writes its first chunk; writer 0's `Close` removes the name, which by
    now is writer 1's file; writer 2 (same name) opens and writes its first chunk; writer 1 finishes and renames *the name*:
    what moves to the final address is writer 2's half-written inode. -/
theorem C08_counter_shared_excl :
    let a := mkFWriter [1] 7 [.body 0]
    let b := mkFWriter [2] 7 [.body 1, .body 2]
    let c := mkFWriter [3] 7 [.body 3, .body 4]
    let s := frun true (fsInit [a, b, c])
      [(0, .ok), (0, .ok), (0, .ok), (0, .ok), (0, .ok),          -- writer 0: open, write, close, mkdirs, rename
       (1, .ok), (1, .ok),                                          -- writer 1: open, first chunk
       (0, .ok),                                                    -- writer 0: deferred Close removes the name
       (2, .ok), (2, .ok),                                          -- writer 2: open, first chunk
       (1, .ok), (1, .ok), (1, .ok), (1, .ok)]                      -- writer 1: second chunk, close, mkdirs, rename
    readFinal s [2] = some [some (.body 3)] := by decide

/-- T-fact tie: both branches of `kvfs.OpenWriter` build the staging name around a fresh `guid.New()` (the hypothesis
    "names pairwise different" of `C08_shared_namespace`; uniqueness of guids themselves is trusted, see C09), and the
    file is opened `O_CREATE|O_WRONLY|O_EXCL`. -/
theorem C08_staging_names_fresh :
    Generated.kvfsStagingNames = ["guid", "guid"] ∧
    Generated.kvfsWriterFlags = ["os.O_CREATE", "os.O_EXCL", "os.O_WRONLY"] := ⟨rfl, rfl⟩

end Rio
