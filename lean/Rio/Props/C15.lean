import Rio.Model.Asm
import Rio.Generated.Facts
/-!
# C15 — Failed assemblies are rolled back; teardown never deletes after a failure
-/
namespace Rio

def TdEv.jid : TdEv → Nat
  | .attempt i => i
  | .skip i => i

theorem teardownFrom_none_cons (fails : Nat → Bool) (j : Janitor) (js : List Janitor) :
    teardownFrom fails (j :: js) none =
      (TdEv.attempt j.id :: (teardownFrom fails js (if fails j.id then some j.id else none)).1,
        (teardownFrom fails js (if fails j.id then some j.id else none)).2) := rfl

theorem teardownFrom_some_cons (fails : Nat → Bool) (j : Janitor) (js : List Janitor) (e : Nat) :
    teardownFrom fails (j :: js) (some e) =
      ((if j.alwaysTry then TdEv.attempt j.id else TdEv.skip j.id) :: (teardownFrom fails js (some e)).1,
        (teardownFrom fails js (some e)).2) := by
  rw [teardownFrom]
  cases j.alwaysTry with
  | false => rfl
  | true => cases fails j.id <;> rfl

/-- every janitor is accounted for exactly once, newest first -/
theorem teardownFrom_ids (fails : Nat → Bool) (js : List Janitor) (fe : Option Nat) :
    (teardownFrom fails js fe).1.map TdEv.jid = js.map (·.id) := by
  induction js generalizing fe with
  | nil => rfl
  | cons j js ih =>
    cases fe with
    | none =>
      rw [teardownFrom_none_cons]
      exact congrArg (j.id :: ·) (ih _)
    | some e =>
      rw [teardownFrom_some_cons]
      cases j.alwaysTry <;> exact congrArg (j.id :: ·) (ih _)

/-- **Order**: `Teardown` goes over all placements newest-first, each exactly once. -/
theorem C15_order (fails : Nat → Bool) (stack : List Janitor) :
    (teardown fails stack).1.map TdEv.jid = (stack.reverse.map (·.id)) :=
  teardownFrom_ids fails _ _

/-- once an error is pending, every never-after-failure janitor is skipped and every always-try janitor is attempted -/
theorem teardownFrom_after_failure (fails : Nat → Bool) (js : List Janitor) (e : Nat) :
    teardownFrom fails js (some e) =
      (js.map (fun j => if j.alwaysTry then TdEv.attempt j.id else TdEv.skip j.id), some e) := by
  induction js with
  | nil => rfl
  | cons j js ih =>
    rw [teardownFrom_some_cons, ih]
    rfl

/-- as long as nothing fails every janitor is attempted and nothing is pending -/
theorem teardownFrom_ok_prefix (fails : Nat → Bool) (pre rest : List Janitor) (hpre : ∀ k ∈ pre, fails k.id = false) :
    teardownFrom fails (pre ++ rest) none =
      (pre.map (fun k => TdEv.attempt k.id) ++ (teardownFrom fails rest none).1, (teardownFrom fails rest none).2) := by
  induction pre with
  | nil => rfl
  | cons k ks ih =>
    rw [List.cons_append, teardownFrom_none_cons, hpre k List.mem_cons_self, if_neg Bool.false_ne_true]
    rw [ih (fun x hx => hpre x (List.mem_cons_of_mem _ hx))]
    rfl

/-- **No delete after a failure**: split the (newest-first) janitor list at the first failing one. Everything newer
    is attempted; the failing one is attempted; of the older ones exactly the always-try (unmount-style) janitors
    are still attempted and the recursive-delete ones are skipped; the first failure is what is reported. -/
theorem C15_no_delete_after_failure (fails : Nat → Bool) (stack : List Janitor) (pre : List Janitor) (j : Janitor)
    (post : List Janitor) (hs : stack.reverse = pre ++ j :: post)
    (hpre : ∀ k ∈ pre, fails k.id = false) (hj : fails j.id = true) :
    (teardown fails stack).1 = pre.map (fun k => TdEv.attempt k.id) ++ TdEv.attempt j.id ::
        post.map (fun k => if k.alwaysTry then TdEv.attempt k.id else TdEv.skip k.id) ∧
    (teardown fails stack).2 = some j.id := by
  unfold teardown
  rw [hs, teardownFrom_ok_prefix fails pre (j :: post) hpre, teardownFrom_none_cons, hj, if_pos rfl]
  rw [teardownFrom_after_failure]
  exact ⟨rfl, rfl⟩

/-- if nothing fails, everything is attempted and no error is reported -/
theorem C15_all_ok (fails : Nat → Bool) (stack : List Janitor) (h : ∀ k ∈ stack, fails k.id = false) :
    (teardown fails stack).1 = stack.reverse.map (fun k => TdEv.attempt k.id) ∧ (teardown fails stack).2 = none := by
  have := teardownFrom_ok_prefix fails stack.reverse [] (fun k hk => h k (List.mem_reverse.1 hk))
  rw [List.append_nil] at this
  unfold teardown
  rw [this]
  exact ⟨List.append_nil _, rfl⟩

/-- **Filler properties that are no directory place nothing**: the refusal comes before the first unpack and the first
    placement — no event, no janitor on the stack, hence nothing to roll back (before the `fix:` the first filler parent
    panicked in `PlaceFile` after earlier inputs were mounted: the `asmbusy-badfiller` stream). With directory properties
    `Run` is what the rest of this file proves things about. -/
theorem C15_bad_filler_places_nothing (tdFails : Nat → Bool) (parts : List Part) :
    asmRunChecked false tdFails parts = ([], .failed "filler" 0, []) ∧
    asmRunChecked true tdFails parts = asmRun tdFails parts := ⟨rfl, rfl⟩

/-- as long as parent creation and placement succeed the loop goes on, one janitor more on the stack each time -/
theorem placeLoop_ok_prefix (tdFails : Nat → Bool) (done rest : List Part) (stack : List Janitor)
    (hdone : ∀ q ∈ done, q.parentFails = false ∧ q.placeFails = false) :
    placeLoop tdFails (done ++ rest) stack =
      (done.flatMap (fun q => [AsmEv.parents q.id, AsmEv.place q.id]) ++
          (placeLoop tdFails rest (stack ++ done.map (fun q => ⟨q.id, q.alwaysTry⟩))).1,
        (placeLoop tdFails rest (stack ++ done.map (fun q => ⟨q.id, q.alwaysTry⟩))).2) := by
  induction done generalizing stack with
  | nil =>
    rw [List.map_nil, List.append_nil]
    rfl
  | cons q qs ih =>
    obtain ⟨h1, h2⟩ := hdone q List.mem_cons_self
    rw [List.cons_append, placeLoop, h1, h2, if_neg Bool.false_ne_true, if_neg Bool.false_ne_true]
    rw [ih _ (fun x hx => hdone x (List.mem_cons_of_mem _ hx)), List.map_cons, List.append_assoc]
    rfl

/-- **Rollback**: if every unpack succeeds and the first failing step is parent creation or placement of input
    `p`, then exactly the inputs before `p` were placed, in order, and before the error is returned every one of
    them is torn down by `Teardown` (newest first, C15_order / C15_no_delete_after_failure). For any number of inputs. -/
theorem C15_rollback (tdFails : Nat → Bool) (done : List Part) (p : Part) (rest : List Part)
    (hu : ∀ q ∈ done ++ p :: rest, q.unpackFails = false)
    (hdone : ∀ q ∈ done, q.parentFails = false ∧ q.placeFails = false)
    (hp : p.parentFails = true ∨ p.placeFails = true) :
    let r := asmRun tdFails (done ++ p :: rest)
    r.1 = (done.flatMap (fun q => [AsmEv.parents q.id, AsmEv.place q.id])) ++
        (if p.parentFails then [AsmEv.parents p.id] else [AsmEv.parents p.id, AsmEv.place p.id]) ++
        (teardown tdFails (done.map (fun q => ⟨q.id, q.alwaysTry⟩))).1.map AsmEv.td ∧
    r.2.1 = .failed (if p.parentFails then "parents" else "place") p.id := by
  have hfind : (done ++ p :: rest).find? (·.unpackFails) = none :=
    List.find?_eq_none.2 (fun q hq => by simp [hu q hq])
  simp only [asmRun, hfind]
  rw [placeLoop_ok_prefix tdFails done (p :: rest) [] hdone, List.nil_append, placeLoop]
  cases hpf : p.parentFails with
  | true => simp
  | false =>
    rw [hpf] at hp
    simp [hp.resolve_left Bool.false_ne_true]

/-- a failing unpack aborts the assembly before anything is placed -/
theorem C15_unpack_failure_places_nothing (tdFails : Nat → Bool) (parts : List Part) (p : Part)
    (h : parts.find? (·.unpackFails) = some p) : asmRun tdFails parts = ([], .failed "unpack" p.id, []) := by
  simp [asmRun, h]

/-- T-fact ties: the copy janitor (recursive delete) is never-after-failure, the unmount-style janitors are
    always-try; every error return of the placement loop tears down first. -/
theorem C15_ties :
    Generated.janitorAlwaysTry = [("aufsJanitor", true), ("bindJanitor", true), ("copyJanitor", false), ("overlayJanitor", true)] ∧
    Generated.asmRollbackSites = [("parent-creation", true), ("placement", true)] := ⟨rfl, rfl⟩

/-- a test: four janitors, the third (id 2) fails -/
example : (teardown (fun i => i == 2) [⟨0, false⟩, ⟨1, true⟩, ⟨2, true⟩, ⟨3, false⟩]).1 =
    [.attempt 3, .attempt 2, .attempt 1, .skip 0] := by decide

end Rio
