import Rio.Model.Place
import Rio.Generated.Facts
import Rio.Proofs.ListAux
/-!
# C11 — Using a cached fileset never changes it
-/
namespace Rio

/-- no placement writes through to the shelf -/
def NoRwBind (ops : List POp) : Prop := ∀ op ∈ ops, op ≠ .place .bindRw

theorem pstep_shelf (s : PState) (op : POp) (h : ∀ p ∈ s.pls, p.kind ≠ .bindRw) (hop : op ≠ .place .bindRw) :
    (pstep s op).shelf = s.shelf ∧ ∀ p ∈ (pstep s op).pls, p.kind ≠ .bindRw := by
  cases op with
  | place k =>
    refine ⟨rfl, ?_⟩
    intro p hp
    simp only [pstep, List.mem_append, List.mem_singleton] at hp
    rcases hp with hp | rfl
    · exact h p hp
    · exact fun e => hop (congrArg POp.place e)
  | write i c =>
    dsimp only [pstep]
    cases hg : s.pls[i]? with
    | none => exact ⟨rfl, h⟩
    | some p =>
      have hp : p.kind ≠ .bindRw := h p (List.mem_of_getElem? hg)
      dsimp only
      cases p.mounted with
      | false => exact ⟨rfl, h⟩
      | true =>
        cases hk : p.kind with
        | bindRw => exact absurd hk hp
        | bindRo => exact ⟨rfl, h⟩
        | copy | overlayRw => exact ⟨rfl, forall_mem_set h i (hk ▸ hp)⟩
  | teardown i =>
    dsimp only [pstep]
    cases hg : s.pls[i]? with
    | none => exact ⟨rfl, h⟩
    | some p => exact ⟨rfl, forall_mem_set h i (h p (List.mem_of_getElem? hg))⟩

theorem prun_shelf (s : PState) (ops : List POp) (hs : ∀ p ∈ s.pls, p.kind ≠ .bindRw) (h : NoRwBind ops) :
    (prun s ops).shelf = s.shelf ∧ ∀ p ∈ (prun s ops).pls, p.kind ≠ .bindRw :=
  List.foldlRecOn ops pstep (motive := fun t => t.shelf = s.shelf ∧ ∀ p ∈ t.pls, p.kind ≠ .bindRw) ⟨rfl, hs⟩
    (fun t ⟨e, ht⟩ op hop => by
      obtain ⟨e', ht'⟩ := pstep_shelf t op ht (h op hop)
      exact ⟨e'.trans e, ht'⟩)

/-- **C11**: whatever finite sequence of placements (copy, writable overlay, read-only bind), writes inside placed
    trees, and teardowns is performed, the shelf stays exactly as committed — and therefore every later placement
    from it shows the committed fileset again. -/
theorem C11_inv (shelf : Content_) (ops : List POp) (h : NoRwBind ops) :
    (prun ⟨shelf, []⟩ ops).shelf = shelf :=
  (prun_shelf ⟨shelf, []⟩ ops nofun h).1

/-- a fresh placement, of whatever kind and in whatever state, shows exactly the shelf -/
theorem pview_fresh (s : PState) (k : PlKind) (p : Placement)
    (hp : (pstep s (.place k)).pls.getLast? = some p) : pview (pstep s (.place k)) p = s.shelf := by
  simp only [pstep, List.getLast?_append, List.getLast?_singleton, Option.some_or] at hp
  cases hp
  cases k <;> rfl

/-- a fresh placement shows exactly the shelf -/
theorem C11_faithful_again (shelf : Content_) (ops : List POp) (k : PlKind) (h : NoRwBind ops) :
    let s := prun ⟨shelf, []⟩ ops
    ∀ p, (pstep s (.place k)).pls.getLast? = some p → pview (pstep s (.place k)) p = shelf :=
  fun p hp => (pview_fresh _ k p hp).trans (C11_inv shelf ops h)

/-- **Dispatch never yields a writable bind of the shelf**, whatever kind of node the shelf's root is: every route of
    `cache.place` gives copy, writable overlay or read-only bind. (Until `fix:` a0ae968 this needed the hypothesis
    `root = .file ∨ root = .dir`: a fifo / device / symlink root was bound writable — `C11_counter_rw_bind` on the
    implementation.) -/
theorem C11_dispatch_safe (mode : Mode) (root : Kind) (k : PlKind)
    (h : cachePlaceFor mode root = some k) : k ≠ .bindRw := by
  cases mode with
  | none_ => cases h
  | direct | copy =>
    cases h
    decide
  | mount =>
    cases Option.some.inj h
    cases root <;> decide

/-- and any read-only request is a read-only bind -/
theorem C11_readonly (root : Kind) : overlayPlacerFor root false = .bindRo := by simp [overlayPlacerFor]

/-- Why a writable bind would be wrong: one write through it changes the shelf (model witness). -/
theorem C11_counter_rw_bind : (prun ⟨7, []⟩ [.place .bindRw, .write 0 8]).shelf = 8 := by decide

/-- T-fact ties: the dispatch tables and mount flags in the code are the ones modelled. -/
theorem C11_ties :
    Generated.overlayDispatch = [(["fs.Type_File"], "CopyPlacer:writable"), (["fs.Type_Dir"], "continue"),
      (["fs.Type_Symlink", "fs.Type_NamedPipe", "fs.Type_Socket", "fs.Type_Device", "fs.Type_CharDevice"], "BindPlacer:false"),
      (["default"], "panic")] ∧
    Generated.overlayReadonlyShortcut = "return BindPlacer(srcPath, dstPath, writable)" ∧
    Generated.bindFlags = [":= syscall.MS_BIND | syscall.MS_REC", "|= syscall.MS_RDONLY | syscall.MS_REMOUNT"] ∧
    Generated.overlayOptions = "lowerdir=%s,upperdir=%s,workdir=%s" ∧
    Generated.cachePlaceSwitch = [(["rio.Placement_None"], "return nil"), (["rio.Placement_Direct"], "CopyPlacer"),
      (["rio.Placement_Copy"], "CopyPlacer"), (["rio.Placement_Mount"], "GetMountPlacer"), (["default"], "return nil")] := ⟨rfl, rfl, rfl, rfl, rfl⟩

end Rio
