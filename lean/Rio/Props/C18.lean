import Rio.Proofs.PathTheory
/-!
# C18 — Path values are canonical and "goes up" is exact

Theorems about the model of `fs/path.go` (`Rio/Model/Path.lean`), which is tied to the Go code
by the exhaustive `path` correspondence stream (every string of length ≤ 7/9 over `{a,b,.,/}`
and every pair of length ≤ 3/4 for `Join`, plus random byte strings).
-/
namespace Rio

/-- Well-formed relative path value: what `MustRelPath` produces. -/
def RelPath.WF (p : RelPath) : Prop :=
  (p.path = [] ∧ p.lastSplit = 0) ∨
  (p.path ≠ [] ∧ p.path ≠ [dot] ∧ ¬ ([dot, slash] <+: p.path) ∧ p.path.head? ≠ some slash ∧
    p.lastSplit = lastIndexOf slash p.path)

/-- GoesUp is exact: true iff the (cleaned) path is `..` or starts with `../`. -/
theorem C18_goesup (p : RelPath) :
    p.goesUp = true ↔ (p.path = [dot, dot] ∨ [dot, dot, slash] <+: p.path) :=
  p.goesUp_iff

/-- The pre-fix predicate was not exact: `..foo` does not leave its base but was reported to. -/
theorem C18_goesup_old_counter :
    let p : RelPath := ⟨[dot, dot, 0x66, 0x6f, 0x6f], -1⟩
    p.goesUpOld = true ∧ ¬ (p.path = [dot, dot] ∨ [dot, dot, slash] <+: p.path) := by
  decide

/-- The fixed predicate implies the old one (the fix only removes false positives). -/
theorem C18_goesup_le_old (p : RelPath) : p.goesUp = true → p.goesUpOld = true := by
  intro h
  rcases (C18_goesup p).1 h with h | ⟨t, h⟩
  · simp [RelPath.goesUpOld, h]
  · simp [RelPath.goesUpOld, ← h]

/-- reads a printed path back: the inverse of `String()` on well-formed values -/
def unstr (s : Bytes) : Bytes :=
  if s = [dot] then [] else if [dot, slash] <+: s then s.drop 2 else s

theorem unstr_str {p : RelPath} (hp : p.WF) : unstr p.str = p.path := by
  rw [RelPath.str_eq]
  rcases hp with ⟨h0, _⟩ | ⟨h0, hd, hds, _, _⟩
  · simp [h0, unstr]
  · rw [if_neg h0]
    split
    · simp [unstr, hd, hds]
    · simp [unstr]

/-- `String()` is injective on well-formed values: two values are equal iff they print identically. -/
theorem C18_string_inj (p q : RelPath) (hp : p.WF) (hq : q.WF) (h : p.str = q.str) : p = q := by
  have ls : ∀ r : RelPath, r.WF → r.lastSplit = if r.path = [] then 0 else lastIndexOf slash r.path := by
    intro r hr
    rcases hr with ⟨a, b⟩ | ⟨a, _, _, _, b⟩ <;> simp [a, b]
  have hpath : p.path = q.path := by rw [← unstr_str hp, ← unstr_str hq, h]
  have h1 := ls p hp
  rw [hpath, ← ls q hq] at h1
  cases p
  cases q
  simp_all

/-! ## Canonical values (deep half; proofs in `Rio/Proofs/PathTheory.lean`)

`RelPath.Clean p` says `p = ofComps cs` for a clean component list `cs` (`..`s first, then normal
components).  Every constructor lands in `Clean`, `Clean` values are equal iff they print identically,
and the operations act on the component lists the obvious way.
-/

/-- canonical values satisfy the shallow well-formedness used by `C18_string_inj` -/
theorem RelPath.Clean.wf {p : RelPath} (h : p.Clean) : p.WF := by
  obtain ⟨cs, hc, rfl⟩ := h
  by_cases h0 : cs = []
  · subst h0
    exact Or.inl ⟨rfl, rfl⟩
  · right
    obtain ⟨hnil, hdot, hdotslash, hrooted⟩ := render_facts hc h0
    rw [ofComps_path h0, ofComps_lastSplit h0]
    exact ⟨hnil, hdot, hdotslash, hrooted, rfl⟩

/-- **Parsing is canonical**: whatever string `MustRelPath` accepts, the value is canonical. -/
theorem C18_parse_canonical (s : Bytes) (p : RelPath) (h : mustRel s = some p) : p.Clean :=
  mustRel_clean h

/-- `MustRelPath` panics exactly on strings starting with `/` -/
theorem C18_parse_total (s : Bytes) : (mustRel s = none ↔ s.head? = some slash) := by
  constructor
  · intro h
    by_cases hs : s.head? = some slash
    · exact hs
    · rw [mustRel_eq hs] at h; cases h
  · exact mustRel_rooted

/-- **Print then parse is the identity** on canonical values -/
theorem C18_print_parse (p : RelPath) (h : p.Clean) : mustRel p.str = some p := by
  obtain ⟨cs, hc, rfl⟩ := h
  exact mustRel_str hc

/-- **Canonical values compare equal iff they print identically.** -/
theorem C18_canonical_eq (p q : RelPath) (hp : p.Clean) (hq : q.Clean) : p = q ↔ p.str = q.str :=
  ⟨fun h => by rw [h], fun h => C18_string_inj p q hp.wf hq.wf h⟩

/-- any two strings that clean to the same thing parse to equal values (hidden split index included) -/
theorem C18_parse_eq (s t : Bytes) (p q : RelPath) (hs : mustRel s = some p) (ht : mustRel t = some q)
    (h : goClean s = goClean t) : p = q := by
  rw [← mustRel_unfold hs, ← mustRel_unfold ht, h]

/-- **Join keeps values canonical** -/
theorem C18_join_canonical (p q : RelPath) (hp : p.Clean) (hq : q.Clean) : (p.join q).Clean := by
  obtain ⟨a, ha, rfl⟩ := hp
  obtain ⟨b, hb, rfl⟩ := hq
  rw [join_ofComps ha hb]
  exact ⟨_, cleanComps_clean false (List.forall_mem_append.2
    ⟨fun c hc => (ha.mem c hc).2.2, fun c hc => (hb.mem c hc).2.2⟩), rfl⟩

/-- **Join agrees with concatenate-then-clean**: joining is the same value as printing both sides, gluing
    them with `/` and parsing the result. -/
theorem C18_join (p q : RelPath) (hp : p.Clean) (hq : q.Clean) :
    mustRel (p.str ++ slash :: q.str) = some (p.join q) := by
  obtain ⟨a, ha, rfl⟩ := hp
  obtain ⟨b, hb, rfl⟩ := hq
  have hh : ((ofComps a).str ++ slash :: (ofComps b).str).head? ≠ some slash := by
    rw [List.head?_append, (ofComps a).str_head]
    show some dot ≠ some slash
    decide
  obtain ⟨pa, hpa, ea⟩ := splitOn_str (Comps.of_clean ha)
  obtain ⟨pb, hpb, eb⟩ := splitOn_str (Comps.of_clean hb)
  rw [mustRel_eq hh, splitOn_append_sep, join_ofComps ha hb, ea, eb, List.append_assoc pa a,
    cleanComps_skip_left false _ hpa, ← List.append_assoc a pb b, cleanComps_skip_mid false a b hpb]

/-- **Dir keeps values canonical** -/
theorem C18_dir_canonical (p : RelPath) (hp : p.Clean) : p.dir.Clean := by
  obtain ⟨cs, hc, rfl⟩ := hp
  rcases eq_nil_or_snoc cs with rfl | ⟨init, l, rfl⟩
  · exact ⟨[], hc, rfl⟩
  · exact ⟨init, hc.split.1, dir_snoc (Comps.of_clean hc)⟩

/-- **Dir and Last invert Join (1)**: a non-root canonical value is its parent joined with its last component. -/
theorem C18_dir_last_join (p : RelPath) (hp : p.Clean) (hne : p.path ≠ []) :
    p.dir.join (ofComps [p.last]) = p := by
  obtain ⟨cs, hc, rfl⟩ := hp
  rcases eq_nil_or_snoc cs with rfl | ⟨init, l, rfl⟩
  · exact absurd rfl hne
  · rw [dir_snoc (Comps.of_clean hc), last_snoc (Comps.of_clean hc),
      join_ofComps hc.split.1 hc.split.2, cleanComps_id hc]

/-- **Dir and Last invert Join (2)**: joining a normal component onto a canonical value and taking `Dir` / `Last`
    gives the two parts back. -/
theorem C18_join_dir_last (p : RelPath) (c : Bytes) (hp : p.Clean) (hc : Normal c) :
    (p.join (ofComps [c])).dir = p ∧ (p.join (ofComps [c])).last = c := by
  obtain ⟨a, ha, rfl⟩ := hp
  have hn : ∀ x ∈ [c], Normal x := List.forall_mem_singleton.2 hc
  have hcl := ha.append_normal hn
  rw [join_ofComps ha (allNormal_clean hn), cleanComps_id hcl]
  exact ⟨dir_snoc (Comps.of_clean hcl), last_snoc (Comps.of_clean hcl)⟩

/-- **Split yields exactly the chain of ancestors**: for the value with components `cs`, `Split` is the list of
    the values of all prefixes of `cs`, shortest (the root) first, the path itself last. -/
theorem C18_split (cs : List Bytes) (h : CleanComps false cs) :
    (ofComps cs).split = (List.range (cs.length + 1)).map (fun k => ofComps (cs.take k)) :=
  split_ofComps (Comps.of_clean h)

/-- … and consecutive elements of that chain are related by `Dir` -/
theorem C18_split_dir (cs : List Bytes) (h : CleanComps false cs) (k : Nat) (hk : k < cs.length) :
    (ofComps (cs.take (k + 1))).dir = ofComps (cs.take k) :=
  dir_take (Comps.of_clean h) k hk

/-- **GoesUp, on components**: a canonical value leaves its base iff its first component is `..` -/
theorem C18_goesup_comps (cs : List Bytes) (h : CleanComps false cs) :
    (ofComps cs).goesUp = true ↔ cs.head? = some dd :=
  goesUp_ofComps (Comps.of_clean h)

/-- joining never lets a path that stays inside escape: if neither side goes up and the right side is made of
    normal components only, the join does not go up -/
theorem C18_join_stays (p q : RelPath) (hp : p.Clean) (hq : q.Clean) (h1 : p.goesUp = false)
    (h2 : q.path.head? ≠ some dot) : (p.join q).goesUp = false :=
  join_not_up hp hq h1 (Bool.eq_false_iff.2 fun hu => h2 (RelPath.head_of_goesUp hu))

/-- non-vacuity (tests): concrete canonical values and the operations on them -/
example : mustRel [0x61, slash, dot, dot, slash, 0x62, slash, slash, 0x63] = some (ofComps [[0x62], [0x63]]) := by decide
example : (ofComps [dd, [0x61]]).goesUp = true ∧ (ofComps [[dot, dot, 0x61]]).goesUp = false := by decide
example : (ofComps [[0x61], [0x62], [0x63]]).split =
    [ofComps [], ofComps [[0x61]], ofComps [[0x61], [0x62]], ofComps [[0x61], [0x62], [0x63]]] := by decide

end Rio
