import Rio.Proofs.Mtimes
/-!
# C10 — "directory mtimes included"

The three unpackers place entries in archive order — every placement disturbs the mtime of the directory that
receives the name — and then re-pave the directories of the bucket (`treewalk.Walk(filteredBucket.Iterator(), nil, …
SetTimesNano …)`; git: the `dirs` slice, backwards).  `C10_unpack_mtimes`: whatever the archive order, whatever the
order of the re-paving, whatever the clock, **every entry ends with exactly its recorded mtime**.  The two hypotheses
are facts about a bucket: names are unique (`fshash` refuses duplicates), and only directories have children (the
file system refuses anything else).  `C10_counter_no_repave` is what happens without the second phase.

The copy placer fixes a directory right after its subtree (`postVisit`): `Rio/Props/C10Copy.lean`.
-/
namespace Rio

/-- **Every entry of an unpacked fileset carries its recorded mtime, directories included** -/
theorem C10_unpack_mtimes (es : List (MEnt × Nat)) (ds : List MEnt) (s : MFs)
    (hnd : (es.map (·.1.path)).Nodup)
    (hds : ∀ d, d ∈ ds ↔ (d ∈ es.map (·.1) ∧ d.isDir = true))
    (hdnd : (ds.map (·.path)).Nodup)
    (hpar : ∀ e ∈ es.map (·.1), ∀ e' ∈ es.map (·.1), parentOf e'.path = some e.path → e.isDir = true) :
    ∀ e ∈ es.map (·.1), unpackMtimes es ds s e.path = some e.mtime := by
  intro e he
  unfold unpackMtimes
  obtain ⟨x, hx, rfl⟩ := List.mem_map.1 he
  by_cases hd : x.1.isDir = true
  · -- a directory: among the re-paving steps its own `settime` is the last write
    apply mrun_map_last_write _ (·.path) ds hdnd x.1 ((hds x.1).2 ⟨he, hd⟩)
    · intro s'
      exact upd_same _ _ _
    · -- `(settime d.path _).touches p` unfolds to `d.path = p`
      intro d _ hne
      exact hne
  · -- not a directory: the re-paving names only directories, and among the placements its own `create` is the last
    -- write, since another `create` touches its own path and its parent's, and a non-directory is nobody's parent
    rw [mrun_untouched (repaveOps ds)]
    · apply mrun_map_last_write _ (·.1.path) es hnd x hx
      · intro s'
        exact mexec_create_self _ _ _ _
      · intro y hy hne ht
        rcases ht with h | h
        · exact hne h
        · exact hd (hpar x.1 he y.1 (List.mem_map_of_mem hy) h)
    · intro op hop ht
      obtain ⟨d, hdm, rfl⟩ := List.mem_map.1 hop
      obtain ⟨hde, hdd⟩ := (hds d).1 hdm
      obtain ⟨y, hy, rfl⟩ := List.mem_map.1 hde
      exact hd (inj_of_nodup_map hnd hy hx ht ▸ hdd)

/-- without the re-paving, a directory that received a child shows the moment of that placement instead -/
theorem C10_counter_no_repave :
    unpackMtimes [(⟨[1], true, 5⟩, 100), (⟨[1, 2], false, 7⟩, 200)] [] (fun _ => none) [1] = some 200 := by
  decide

/-- and with it (a test of the hypotheses: they are satisfiable and the conclusion is the interesting one) -/
example : unpackMtimes [(⟨[1], true, 5⟩, 100), (⟨[1, 2], false, 7⟩, 200)] [⟨[1], true, 5⟩] (fun _ => none) [1] = some 5 := by
  decide

/-- **The destination's parent keeps its mtime** (`defer fsOp.RepairMtime(rootFs, dstPath.Dir())()`): whatever the
    placement did in between — removal of what was there, creation of the destination, any number of entries — the
    parent shows the mtime it had before, and the repair touches nothing else. -/
theorem C10_parent_mtime_repaired (s : MFs) (ops : List MOp) (parent : MPath) (t0 : Nat) (h0 : s parent = some t0) :
    mexec (mrun s ops) (.settime parent t0) parent = s parent ∧
    ∀ p, p ≠ parent → mexec (mrun s ops) (.settime parent t0) p = mrun s ops p :=
  ⟨(upd_same _ _ _).trans h0.symm, fun _ hp => upd_other hp⟩

end Rio
