import Rio.Props.C19
import Rio.Props.C12
/-!
# C19 × C12 — an unpack filter reaches every entry of a git unpack, directories included

git has no owners and no times: every record — the conjured root, trees, files, links, gitlink directories — starts
with 1000:1000 (the root: 0:0) and the default time, and goes through `ApplyUnpackFilter`.  What is delivered carries
the filter's time on *every* entry: the closing re-time pass of `unpackOneRepo` re-times the directories to the filtered
time too (before the `fix:` it wrote the default time back onto every directory; the `git` engine of the Lean driver applies the filter
to every record in the same way, and the `git` stream's oracle checks the delivered times).
-/
namespace Rio

/-- every record of a whole unpack — the conjured root first — starts from the default time -/
theorem gitUnpackMetas_mtime (es : List GitEntry) (ms : List Meta) (h : gitUnpackMetas es = .ok ms) :
    ∀ m ∈ ms, m.mtime = defaultTime := by
  rcases gitUnpackMetas_cases es with h' | ⟨ms', h', hall⟩
  · rw [h'] at h
    cases h
  · rw [h'] at h
    cases h
    intro m hm
    rcases List.mem_cons.1 hm with rfl | hm
    · rfl
    · have : GitRes.ok m ∈ es.map gitEntryMeta := hall ▸ List.mem_map_of_mem hm
      obtain ⟨e, -, he⟩ := List.mem_map.1 this
      obtain ⟨-, -, -, hmtime, -⟩ := C19_tree e m he
      exact hmtime

/-- **The mtime rule of an unpack filter names every entry of a git unpack** — files, links and every directory: what
    is delivered for a record carries the filter's time if the filter sets one, the default time otherwise. -/
theorem C19_filter_mtime_everywhere (myUid myGid : Nat) (ff : UnpackFilter) (es : List GitEntry) (ms : List Meta)
    (h : gitUnpackMetas es = .ok ms) (m : Meta) (hm : m ∈ ms) (m' : Meta)
    (hf : applyUnpackFilter myUid myGid ff m = .ok m') :
    m'.mtime = if ff.mtime ≠ ffKeep then ⟨ff.mtime, 0⟩ else defaultTime := by
  cases applyUnpackFilter_ok hf
  simp only [specUnpack, gitUnpackMetas_mtime es ms h m hm]

/-- non-vacuity (a test): a tree with a directory and a file under `mtime=@99` -/
example :
    (match gitUnpackMetas [⟨[0x64], .dir, []⟩, ⟨[0x64, 0x2f, 0x66], .regular, [1]⟩] with
     | .ok ms => ms.map (fun m => match applyUnpackFilter 0 0 ⟨true, ffKeep, ffKeep, 99, ffKeep, ffKeep, ffKeep⟩ m with
        | .ok m' => m'.mtime.sec | _ => -1)
     | _ => []) = [99, 99, 99] := by decide

end Rio
