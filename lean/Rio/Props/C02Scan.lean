import Rio.Proofs.ScanOfPack
import Rio.Proofs.ListingOfTree
import Rio.Proofs.PathsUnique
/-!
# C02 (continued) — pack and scan report the same wareID, and it is the specified one

The header round trip of `Rio/Props/C02.lean` and the refinement of C05 (`hashBucket_refines`) put together: first for a
listing of entries (`ListingOK`), then for a fileset given as a tree of components (`LTree`).
-/
namespace Rio

/-- **`scan(pack(F)) = pack(F) = specId(F)`**: for every listing `es` of a fileset in the tar format's domain (every
    path once, parent directories listed before their children, permission bits < 2^12, ids < 2^32, whole-second mtimes,
    no sockets or hard links: `ListingOK`) whose records are those of a well-formed tree `t`, for every hash function
    and every identity of the scanning process:
    * the pack model (`packId`, lossless filter) reports `specId H t`;
    * the unpack / scan model (`unpackTar` on the nil filesystem, lossless filter) applied to *the headers the pack
      wrote* reports `specId H t` twice (prefilter and filtered id).
    The proof composes the header round trip (`tarHdr_roundtrip`), one step of each loop
    (`packEntry_good`, `unpackEntry_good`: the same record is filed) and `C05_refine`. -/
theorem C02_scan_of_pack (H : Bytes → Bytes) (mu mg : Nat) (es : List FsEntry) (hne : es ≠ [])
    (hok : ListingOK es [] []) (t : Tree) (hwf : WFRoot t) (hp : (es.map recOf).Perm (flatten t)) :
    packId H .tar losslessPackF es = .ok (specId H t) ∧
    unpackTar H nilOps mu mg losslessUnpack (hdrsOf es) .eof () = .ok ((), specId H t, specId H t) := by
  obtain ⟨p1, D', p2⟩ := entries_good mu mg es [] [] hok
  rw [List.nil_append] at p1 p2
  have hb : ∀ H', hashBucket H' (es.map recOf) = .ok (specId H' t) := fun H' => hashBucket_refines H' t hwf _ hp
  have hne' : es.map recOf ≠ [] := mt List.map_eq_nil_iff.1 hne
  constructor
  · simp only [packId, p1, List.isEmpty_eq_false_iff.2 hne', hb H, Bool.false_eq_true, if_false]
  · -- both buckets are the pack's (`p2`); the re-paving walk and the two hashes are `hb`; equal ids pass the last check
    have hlen : ¬ (List.replicate 10 (0 : UInt8)).length < 10 := by decide
    have hfin : ¬ StreamEnd.eof = .corrupt := by decide
    simp only [unpackTar, if_neg hlen, p2, if_neg hfin, if_neg hne', hb, applySetTimes_nilOps, ne_eq, not_true_eq_false,
      decide_false, Bool.and_false, Bool.false_eq_true, if_false]

/-! the hypotheses are met by a concrete fileset: a root directory holding one file (tests) -/

def exRoot : FsEntry := ⟨{ name := ⟨[], 0⟩, kind := .dir, perms := 0o755, uid := 0, gid := 0, size := 0, linkname := [], devmajor := 0, devminor := 0, mtime := ⟨5, 0⟩, xattrs := [] }, []⟩
def exFile : FsEntry := ⟨{ name := ⟨[0x61], -1⟩, kind := .file, perms := 0o644, uid := 1000, gid := 1000, size := 3, linkname := [], devmajor := 0, devminor := 0, mtime := ⟨7, 0⟩, xattrs := [] }, [1, 2, 3]⟩
def exTree : Tree := .node (recOf exRoot) (.cons (.node (recOf exFile) .nil) .nil)

theorem ex_listing : ListingOK [exRoot, exFile] [] [] := by
  refine ⟨⟨⟨[], CleanComps.nil false, rfl⟩, by decide, by decide, by decide, by decide, by decide, by decide⟩, by decide, by decide, by decide, ?_⟩
  refine ⟨⟨mustRel_clean (s := [0x61]) (by decide), by decide, by decide, by decide, by decide, by decide, by decide⟩, by decide, by decide, by decide, trivial⟩

theorem ex_wf : WFRoot exTree :=
  ⟨rfl, .inl ⟨rfl, by decide,
    WFF_cons.2 ⟨.leaf (c := [0x61]) (by decide) (by decide) (by decide) (by decide), WFF_nil, nofun⟩⟩⟩

/-- the theorem applied to that fileset (so its hypotheses are jointly satisfiable) -/
example (H : Bytes → Bytes) :
    unpackTar H nilOps 0 0 losslessUnpack (hdrsOf [exRoot, exFile]) .eof () = .ok ((), specId H exTree, specId H exTree) :=
  (C02_scan_of_pack H 0 0 [exRoot, exFile] (List.cons_ne_nil _ _) ex_listing exTree ex_wf .rfl).2

/-- **The same for every real fileset, with no hypothesis left about the listing**: a fileset given by component names
    (`LTree`: components normal — non-empty, no `/`, not `.` or `..` —, only directories have children, siblings in key
    order, no path both a directory and something else: `hpaths`, which the file system guarantees and — since the
    `fix:` — the unpacker checks) whose attributes lie in the tar format's domain (`AttrsOK`: 12-bit permissions, 32-bit ids, whole-second
    mtimes, no sockets / hard links, content hashes on files only).  Its pre-order listing — a directory before what it
    contains, the order `fs.Walk` delivers — packs to `specId`, and the scan of the headers that pack wrote reports
    `specId` twice.  (`Rio/Proofs/ListingOfTree.lean`: the pre-order listing of such a tree is `ListingOK`.) -/
theorem C02_scan_of_pack_fileset (H : Bytes → Bytes) (mu mg : Nat) (m : Meta) (ch : Bytes) (kids : LForest)
    (hshape : (m.kind = .dir ∧ LWFF kids) ∨ (m.kind ≠ .dir ∧ kids = .nil)) (hattr : AttrsOK m ch) (hgood : LGoodF kids)
    (hpaths : ∀ r ∈ flatten (toRoot m ch kids), ∀ r' ∈ flatten (toRoot m ch kids), r'.name ≠ recordName (twinOf r.m)) :
    packId H .tar losslessPackF ((flatten (toRoot m ch kids)).map entOf) = .ok (specId H (toRoot m ch kids)) ∧
    unpackTar H nilOps mu mg losslessUnpack (hdrsOf ((flatten (toRoot m ch kids)).map entOf)) .eof () =
      .ok ((), specId H (toRoot m ch kids), specId H (toRoot m ch kids)) := by
  have hwf := toRoot_wf m ch kids hshape
  have hrec : ∀ r ∈ flatten (toRoot m ch kids), GoodEntry (entOf r) ∧ recOf (entOf r) = r :=
    List.forall_mem_cons.2 ⟨good_record (cs := []) nofun m ch hattr, flattenF_good kids [] nofun (lwff_of_shape hshape) hgood⟩
  have hmap : ((flatten (toRoot m ch kids)).map entOf).map recOf = flatten (toRoot m ch kids) := by
    rw [List.map_map]
    exact (List.map_congr_left (fun r hr => (hrec r hr).2)).trans (List.map_id _)
  refine C02_scan_of_pack H mu mg _ (by simp [toRoot, flatten]) (listing_of_list _ [] [] ?_ ?_ ?_ ?_) _ hwf (by rw [hmap])
  · exact List.forall_mem_map.2 fun r hr => (hrec r hr).1
  · rw [List.nil_append, hmap]
    -- no key twice: the pre-order listing of a well-formed tree is strictly increasing in the keys
    exact nodup_of_Srt _ (srt_root _ hwf)
  · rw [List.nil_append, hmap]
    refine List.forall_mem_map.2 fun r hr hm => ?_
    obtain ⟨r', hr', e⟩ := List.mem_map.1 hm
    exact hpaths r hr r' hr' e
  · -- the root has no parents; what is below it has the root, if that is a directory
    refine ⟨fun p hp => absurd hp List.not_mem_nil, ?_⟩
    show PF (if m.kind = Kind.dir then [ofComps []] else []) _
    rcases hshape with ⟨hd, hk⟩ | ⟨hd, hk⟩
    · rw [if_pos hd]
      refine pfF kids [] _ nofun (fun k hk' => ?_) hk
      rw [Nat.le_zero.1 hk']
      exact List.mem_cons_self
    · subst hk
      trivial

/-- **… and with the path hypothesis discharged**: what a file system guarantees is that the names below one directory
    are pairwise distinct (`LDistF`); from that, no path is both a directory and something else
    (`hpaths_of_distinct`, Rio/Proofs/PathsUnique.lean), and the statement holds with hypotheses on the fileset only. -/
theorem C02_scan_of_pack_real_fileset (H : Bytes → Bytes) (mu mg : Nat) (m : Meta) (ch : Bytes) (kids : LForest)
    (hshape : (m.kind = .dir ∧ LWFF kids) ∨ (m.kind ≠ .dir ∧ kids = .nil)) (hattr : AttrsOK m ch) (hgood : LGoodF kids)
    (hdist : LDistF kids) :
    packId H .tar losslessPackF ((flatten (toRoot m ch kids)).map entOf) = .ok (specId H (toRoot m ch kids)) ∧
    unpackTar H nilOps mu mg losslessUnpack (hdrsOf ((flatten (toRoot m ch kids)).map entOf)) .eof () =
      .ok ((), specId H (toRoot m ch kids), specId H (toRoot m ch kids)) :=
  C02_scan_of_pack_fileset H mu mg m ch kids hshape hattr hgood (hpaths_of_distinct m ch kids hshape hdist)

/-! a fileset that meets the hypotheses: `./`, `./a` (file), `./d/`, `./d/x` (symlink) (test) -/

def exM (k : Kind) (p : Nat) : Meta :=
  { name := ⟨[], 0⟩, kind := k, perms := p, uid := 1000, gid := 1000, size := 0, linkname := [], devmajor := 0, devminor := 0, mtime := ⟨9, 0⟩, xattrs := [] }
def exKids : LForest :=
  .cons (.node [0x61] (exM .file 0o644) [7, 7] .nil)
    (.cons (.node [0x64] (exM .dir 0o755) [] (.cons (.node [0x78] (exM .symlink 0o777) [] .nil) .nil)) .nil)

theorem exN (b : UInt8) (h1 : b ≠ dot) (h2 : b ≠ slash) : Normal [b] := by
  refine ⟨by simp, ?_, ?_, ?_⟩
  · intro e; injection e with e; exact h1 e
  · intro e; simp [dd] at e
  · simp; exact fun e => h2 e.symm

theorem exAttrs (k : Kind) (p : Nat) (ch : Bytes) (hp : p < 4096) (hk : k ≠ .socket ∧ k ≠ .invalid ∧ k ≠ .hardlink)
    (hc : k ≠ .file → ch = []) : AttrsOK (exM k p) ch :=
  ⟨hp, by simp [exM], by simp [exM], hk, rfl, hc⟩

theorem ex_lwff : LWFF exKids :=
  ⟨⟨exN _ (by decide) (by decide), fun _ => rfl, trivial⟩,
    ⟨⟨exN _ (by decide) (by decide), fun h => absurd rfl h,
      ⟨exN _ (by decide) (by decide), fun _ => rfl, trivial⟩, trivial, nofun⟩, trivial, nofun⟩,
    by decide⟩

theorem ex_lgood : LGoodF exKids :=
  ⟨⟨exAttrs _ _ _ (by decide) (by decide) (fun h => absurd rfl h), trivial⟩,
    ⟨exAttrs _ _ _ (by decide) (by decide) (fun _ => rfl), ⟨exAttrs _ _ _ (by decide) (by decide) (fun _ => rfl), trivial⟩, trivial⟩, trivial⟩

example (H : Bytes → Bytes) :
    packId H .tar losslessPackF ((flatten (toRoot (exM .dir 0o755) [] exKids)).map entOf) =
      .ok (specId H (toRoot (exM .dir 0o755) [] exKids)) :=
  (C02_scan_of_pack_fileset H 0 0 (exM .dir 0o755) [] exKids (Or.inl ⟨rfl, ex_lwff⟩)
    (exAttrs _ _ _ (by decide) (by decide) (fun _ => rfl)) ex_lgood (by decide)).1

theorem ex_ldist : LDistF exKids :=
  ⟨trivial, ⟨⟨trivial, trivial, nofun⟩, trivial, nofun⟩, by decide⟩

example (H : Bytes → Bytes) :
    packId H .tar losslessPackF ((flatten (toRoot (exM .dir 0o755) [] exKids)).map entOf) =
      .ok (specId H (toRoot (exM .dir 0o755) [] exKids)) :=
  (C02_scan_of_pack_real_fileset H 0 0 (exM .dir 0o755) [] exKids (Or.inl ⟨rfl, ex_lwff⟩)
    (exAttrs _ _ _ (by decide) (by decide) (fun _ => rfl)) ex_lgood ex_ldist).1

/-- what the hypothesis `hpaths` excludes: a listing with `./a` (file) and `./a/` (directory) is refused by the unpack
    model as a corrupt ware (before the `fix:` it was given a wareID that no unpack onto a file system could deliver) -/
example : (match unpackEntries nilOps 0 0 losslessUnpack
    [⟨[0x2e, 0x2f], 0x35, 0o755, 0, 0, 0, [], 0, 0, ⟨0, 0⟩, [], [], true⟩,
     ⟨[0x61], 0x30, 0o644, 0, 0, 0, [], 0, 0, ⟨0, 0⟩, [], [], true⟩,
     ⟨[0x61, 0x2f], 0x35, 0o755, 0, 0, 0, [], 0, 0, ⟨0, 0⟩, [], [], true⟩] ⟨(), [], [], []⟩ with
    | .err c => decide (c = .wareCorrupt) | _ => false) = true := by
  decide

end Rio
