import Rio.Proofs.Fetch
import Rio.Generated.Facts
/-!
# C13 — A mirrored ware is served by the target alone, identically

`mirror` (Rio/Model/Fetch.lean) models `util.CreateMirror`: probe the target, open a staging writer,
pick a source, tee every byte read into the staging file while scanning, compare the scanned wareID,
commit.  The write path itself (atomic commit, cleanup) is C08's transition system.
-/
namespace Rio

/-- **No-op**: when the target already holds an object at the ware's address, mirror succeeds without opening
    any source and without writing anything. -/
theorem C13_noop (H : Bytes → Bytes) (req : Bytes) (writerOk : Bool) (pick : PickRes)
    (hdrs : List TarHdr) (fin : StreamEnd) (head : Bytes) (commitOk : Bool) :
    (mirror H req true writerOk pick hdrs fin head commitOk).2 = [.noop] ∧
    (match (mirror H req true writerOk pick hdrs fin head commitOk).1 with | .ok _ => True | _ => False) := by
  simp [mirror]

/-- **Success means committed and verified**: if mirror succeeds and the target did not have the ware, the
    staging file received every byte read, the scan of those bytes gave the requested id, and it was committed. -/
theorem C13_served (H : Bytes → Bytes) (req : Bytes) (writerOk : Bool) (pick : PickRes)
    (hdrs : List TarHdr) (fin : StreamEnd) (head : Bytes) (commitOk : Bool)
    (hok : (mirror H req false writerOk pick hdrs fin head commitOk).1 = .ok ()) :
    (mirror H req false writerOk pick hdrs fin head commitOk).2 = [.openWriter, .teeAll, .commit, .closeStage] ∧
    commitOk = true ∧
    ∃ post, unpackTar H nilOps 0 0 ⟨true, ffKeep, ffKeep, ffKeep, ffKeep, ffKeep, ffKeep⟩ hdrs fin () head = .ok ((), req, post) := by
  rcases mirror_cases H req false writerOk pick hdrs fin head commitOk with ⟨-, h, -⟩ | ⟨h, hp⟩
  · cases h hok
  · rw [h] at hok ⊢
    cases commitOk
    · cases hok
    · exact ⟨rfl, rfl, hp⟩

/-- **A failed mirror commits nothing**: whenever mirror does not succeed, `Commit` either was not attempted or
    failed (and then C08 says the final address is untouched); whenever a staging writer was opened, it is closed
    (removed) before returning. -/
theorem C13_fail_clean (H : Bytes → Bytes) (req : Bytes) (targetHas writerOk : Bool) (pick : PickRes)
    (hdrs : List TarHdr) (fin : StreamEnd) (head : Bytes) (commitOk : Bool)
    (hfail : ∀ u, (mirror H req targetHas writerOk pick hdrs fin head commitOk).1 ≠ .ok u)
    (hnp : ∀ w, (mirror H req targetHas writerOk pick hdrs fin head commitOk).1 ≠ .panic w) :
    let ev := (mirror H req targetHas writerOk pick hdrs fin head commitOk).2
    (MirrorEv.commit ∉ ev ∨ commitOk = false) ∧ (MirrorEv.openWriter ∈ ev → MirrorEv.closeStage ∈ ev) := by
  rcases mirror_cases H req targetHas writerOk pick hdrs fin head commitOk with ⟨hc, -, hw⟩ | ⟨h, -⟩
  · exact ⟨.inl hc, fun ho => (hw ho).resolve_right fun ⟨w, hp⟩ => hnp w hp⟩
  · rw [h] at hfail ⊢
    cases commitOk
    · exact ⟨.inr rfl, fun _ => by decide⟩
    · exact absurd rfl (hfail ())

/-- T-fact tie: `CreateMirror` compares the scanned id with the requested one before its only `Commit`, and
    unpacks into nilfs (nothing is created locally). -/
theorem C13_tie : Generated.mirrorCompare = ["gotWare != wareID"] ∧ Generated.mirrorCommitAfterCompare = true ∧
    Generated.mirrorFs = ["nilFS.New()", "nilFS.New()"] := ⟨rfl, rfl, rfl⟩   -- the probe of a single-address target, and the copy

end Rio
