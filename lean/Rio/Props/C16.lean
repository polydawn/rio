import Rio.Proofs.Warehouse
/-!
# C16 — Fetching skips dead warehouses and takes the first that has the ware

`pickReader` models `util.PickReader` (loop, the two `switch Category(err)` tables, the
`anyWarehouses` flag); `Wh.dial` / `Wh.open_` model what the kvfs and kvhttp controllers answer in
each condition. Tied to the Go code by the `pick` stream (every list of ≤ 2 warehouses, ≤ 3 in the thorough tier, over
scheme × condition on real directories and a loopback HTTP server; longer lists sampled).
-/
namespace Rio

/-- **First holder wins.** A fetch over `ws` is served by warehouse `k` iff `k` holds an object at the
    ware's address and every earlier warehouse is dead or lacks it (however many there are). -/
theorem C16_first (ws : List Wh) (k : Nat) :
    pickReader false ws 0 false = .opened k ↔
      (∃ w, ws[k]? = some w ∧ w.holds) ∧ ∀ j, j < k → ∃ w, ws[j]? = some w ∧ w.skippable := by
  rw [pick_first]
  simp only [Nat.zero_add, exists_eq_left', FirstHolder]

/-- **None has it.** If every warehouse is dead or lacks the ware, the error is `ware-not-found` when
    at least one warehouse answered, and `warehouse-unavailable` otherwise. -/
theorem C16_errors (ws : List Wh) (hall : ∀ w ∈ ws, w.skippable) :
    pickReader false ws 0 false =
      .err (if (∃ w ∈ ws, w.answersNotFound) then .wareNotFound else .whUnavailable) := by
  have := pick_skip ws [] 0 false hall
  rw [List.append_nil] at this
  rw [this]
  simp [pickReader]

/-- **Usage.** An unsupported or malformed address reached before any holder aborts with a usage error. -/
theorem C16_usage (pre : List Wh) (w : Wh) (post : List Wh) (hpre : ∀ v ∈ pre, v.skippable)
    (hw : w.scheme.supported = false) : pickReader false (pre ++ w :: post) 0 false = .err .usage := by
  rw [pick_skip pre _ 0 false hpre]
  simp [pickReader, hw]

/-- The pre-fix loop was wrong: a dead http warehouse in front of a holder aborted the fetch. -/
theorem C16_old_counter :
    pickReaderOld false [⟨.http, .serverError⟩, ⟨.caFile, .holding⟩] 0 false = .err .whUnavailable ∧
    pickReader false [⟨.http, .serverError⟩, ⟨.caFile, .holding⟩] 0 false = .opened 1 := by decide

/-- CA layout: `<h[0:3]>/<h[3:6]>/<h>` — the three chunks reassemble the (padded) hash. -/
theorem C16_layout (h : Bytes) (hl : 7 ≤ h.length) :
    let (a, b, c) := chunkifyHash h
    a ++ b ++ c = h ∧ a.length = 3 ∧ b.length = 3 := by
  rw [chunkifyHash_of_long hl]
  refine ⟨?_, by simp; omega, by simp; omega⟩
  rw [← List.take_add, List.take_append_drop]

end Rio
