import Rio.Basic
/-! `bytesLt` is the lexicographic `<` of core's `List`, hence a strict total order; `sortBy` sorts; a list with
    distinct keys has exactly one strictly sorted permutation, so on distinct keys the result of `sortBy` — of any
    sort — does not depend on the input order. -/
namespace Rio

theorem bytesLt_iff {a b : Bytes} : bytesLt a b = true ↔ a < b := by
  induction a generalizing b with
  | nil => cases b <;> simp [bytesLt]
  | cons x xs ih =>
    cases b with
    | nil => simp [bytesLt]
    | cons y ys =>
      rw [bytesLt, List.cons_lt_cons_iff, ← ih]
      by_cases hxy : x < y
      · simp [hxy]
      · by_cases hyx : y < x
        · simp [hxy, hyx, (UInt8.ne_of_lt hyx).symm]
        · have : x = y := UInt8.le_antisymm (UInt8.not_lt.1 hyx) (UInt8.not_lt.1 hxy)
          simp [this]

theorem bytesLt_ne {a b : Bytes} (h : bytesLt a b = true) : a ≠ b := by
  rintro rfl
  exact List.lt_irrefl a (bytesLt_iff.1 h)

theorem bytesLt_asymm {a b : Bytes} (h : bytesLt a b = true) : bytesLt b a = false :=
  Bool.eq_false_iff.2 fun h' => List.lt_asymm (bytesLt_iff.1 h) (bytesLt_iff.1 h')

theorem bytesLt_trans {a b c : Bytes} (h1 : bytesLt a b = true) (h2 : bytesLt b c = true) :
    bytesLt a c = true :=
  bytesLt_iff.2 (List.lt_trans (bytesLt_iff.1 h1) (bytesLt_iff.1 h2))

theorem bytesLt_of_not_gt {a b : Bytes} (h : bytesLt b a = false) (hne : a ≠ b) : bytesLt a b = true :=
  have hle : a ≤ b := List.not_lt.1 fun hba => Bool.false_ne_true (h.symm.trans (bytesLt_iff.2 hba))
  bytesLt_iff.2 ((List.le_iff_lt_or_eq.1 hle).resolve_right hne)

theorem bytesLt_proper_prefix (a b : Bytes) (hb : b ≠ []) : bytesLt a (a ++ b) = true :=
  match b, hb with
  | x :: xs, _ => bytesLt_iff.2 (by simpa using List.append_left_lt (l₁ := a) (List.nil_lt_cons x xs))

/-- appending keeps two keys in order, unless the smaller one is a prefix of the larger and is itself extended -/
theorem bytesLt_append {a b : Bytes} (u v : Bytes) (h : bytesLt a b = true) (hp : u = [] ∨ ¬ a <+: b) :
    bytesLt (a ++ u) (b ++ v) = true := by
  rw [bytesLt_iff] at h ⊢
  induction h with
  | nil =>
    rcases hp with rfl | hp
    · exact List.Lex.nil
    · exact absurd List.nil_prefix hp
  | rel h => exact List.Lex.rel h
  | cons _ ih => exact List.Lex.cons (ih (hp.imp_right fun hp hp' => hp (List.cons_prefix_cons.2 ⟨rfl, hp'⟩)))

variable {α : Type} (key : α → Bytes)

theorem perm_insertBy (x : α) (l : List α) : (insertBy key x l).Perm (x :: l) := by
  induction l with
  | nil => exact List.Perm.refl _
  | cons q qs ih =>
    simp only [insertBy]
    split
    · exact List.Perm.refl _
    · exact (List.Perm.cons q ih).trans (List.Perm.swap x q qs)

theorem perm_sortBy (l : List α) : (sortBy key l).Perm l := by
  induction l with
  | nil => exact List.Perm.refl _
  | cons x xs ih => exact (perm_insertBy key x _).trans (List.Perm.cons x ih)

theorem pairwise_insertBy {x : α} {l : List α} (hs : l.Pairwise fun a b => bytesLt (key b) (key a) = false) :
    (insertBy key x l).Pairwise fun a b => bytesLt (key b) (key a) = false := by
  induction l with
  | nil => exact List.pairwise_singleton _ _
  | cons q qs ih =>
    obtain ⟨hq, hqs⟩ := List.pairwise_cons.1 hs
    by_cases hlt : bytesLt (key x) (key q) = true
    · rw [insertBy, if_pos hlt]
      refine List.pairwise_cons.2 ⟨fun y hy => ?_, hs⟩
      rcases List.mem_cons.1 hy with rfl | hy
      · exact bytesLt_asymm hlt
      · exact Bool.eq_false_iff.2 fun hyx => Bool.false_ne_true ((hq y hy).symm.trans (bytesLt_trans hyx hlt))
    · rw [insertBy, if_neg hlt]
      refine List.pairwise_cons.2 ⟨fun y hy => ?_, ih hqs⟩
      rcases List.mem_cons.1 ((perm_insertBy key x qs).mem_iff.1 hy) with rfl | hy
      · exact Bool.eq_false_iff.2 hlt
      · exact hq y hy

theorem pairwise_sortBy : ∀ (l : List α), (sortBy key l).Pairwise fun a b => bytesLt (key b) (key a) = false
  | [] => List.Pairwise.nil
  | _ :: xs => pairwise_insertBy key (pairwise_sortBy xs)

abbrev SortedBy (l : List α) : Prop := l.Pairwise fun a b => bytesLt (key a) (key b) = true

variable {key}

theorem sortedBy_sortBy {l : List α} (hn : (l.map key).Nodup) : SortedBy key (sortBy key l) :=
  (pairwise_sortBy key l).imp₂ (fun _ _ h hne => bytesLt_of_not_gt h hne)
    (List.pairwise_map.1 (((perm_sortBy key l).map key).symm.nodup hn))

theorem SortedBy.eq_of_perm {l₁ l₂ : List α} (h₁ : SortedBy key l₁) (h₂ : SortedBy key l₂) (hp : l₁.Perm l₂) :
    l₁ = l₂ :=
  hp.eq_of_pairwise (fun _ _ _ _ hab hba => absurd ((bytesLt_asymm hab).symm.trans hba) Bool.false_ne_true) h₁ h₂

theorem SortedBy.nodup {l : List α} (h : SortedBy key l) : (l.map key).Nodup :=
  List.pairwise_map.2 (h.imp bytesLt_ne)

theorem sortBy_of_sortedBy {l : List α} (h : SortedBy key l) : sortBy key l = l :=
  (sortedBy_sortBy h.nodup).eq_of_perm h (perm_sortBy key l)

theorem sortBy_perm_eq {l₁ l₂ : List α} (hp : l₁.Perm l₂) (hn : (l₁.map key).Nodup) :
    sortBy key l₁ = sortBy key l₂ :=
  (sortedBy_sortBy hn).eq_of_perm (sortedBy_sortBy ((hp.map key).nodup hn))
    (((perm_sortBy key l₁).trans hp).trans (perm_sortBy key l₂).symm)

end Rio
