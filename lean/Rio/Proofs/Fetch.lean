import Rio.Model.Fetch
/-!
# `mirror` (`util.CreateMirror`), characterised once

Used by C03 (a commit implies a verified scan) and by C13 (success implies commit; failure is clean).
-/
namespace Rio

/-- every run of `mirror`: either nothing is committed — then it succeeds only as the no-op, and a staging writer it
    opened is closed unless the scan panics — or the scan of the teed stream gave the requested id, and the outcome is
    that of the commit -/
theorem mirror_cases (H : Bytes → Bytes) (req : Bytes) (targetHas writerOk : Bool) (pick : PickRes)
    (hdrs : List TarHdr) (fin : StreamEnd) (head : Bytes) (commitOk : Bool) :
    let r := mirror H req targetHas writerOk pick hdrs fin head commitOk
    (MirrorEv.commit ∉ r.2 ∧ (r.1 = .ok () → targetHas = true) ∧
      (MirrorEv.openWriter ∈ r.2 → MirrorEv.closeStage ∈ r.2 ∨ ∃ w, r.1 = .panic w)) ∨
    (r = (if commitOk then .ok () else .err .whUnwritable, [.openWriter, .teeAll, .commit, .closeStage]) ∧
      ∃ post, unpackTar H nilOps 0 0 ⟨true, ffKeep, ffKeep, ffKeep, ffKeep, ffKeep, ffKeep⟩ hdrs fin () head = .ok ((), req, post)) := by
  unfold mirror
  -- the run depends on the scan only through its outcome
  generalize unpackTar H nilOps 0 0 ⟨true, ffKeep, ffKeep, ffKeep, ffKeep, ffKeep, ffKeep⟩ hdrs fin () head = u
  cases targetHas
  · cases writerOk
    · exact .inl (by simp)
    · cases pick with
      | err c => exact .inl (by simp)
      | opened i =>
        cases u with
        | panic w | err c => exact .inl (by simp)
        | ok r =>
          obtain ⟨u, pre, post⟩ := r
          by_cases hp : pre = req
          · exact .inr (by cases commitOk <;> simp [hp])
          · exact .inl (by simp [hp])
  · exact .inl (by simp)

end Rio
