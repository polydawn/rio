import Rio.Model.Path
import Rio.Proofs.Bytes
import Rio.Proofs.ListAux
/-!
# Path theory: `RelPath` values are (isomorphic to) clean component lists

The deep half of C18.  A *clean component list* is `ups ++ names` with every `ups` entry `..`
and every `names` entry a normal component (non-empty, not `.`, not `..`, no `/`).  We show

* strings and lists of pieces free of the separator are exchanged by `splitOn` and `joinWith`, which are inverse to
  each other; the component pass of `path.Clean` (`cleanComps`) always yields a clean list (`cleanComps_clean`) and is
  the identity on clean lists (`cleanComps_id`);
* every value built by `MustRelPath` is `ofComps cs` for a clean `cs` (`RelPath.Clean`), and the
  operations `Join`, `Dir`, `Last`, `Split`, `SplitParent`, `String`, `GoesUp` act on those lists the obvious way.
  All but parsing and `Join` need only that the components are non-empty and free of `/` (`Comps`); they rest on
  `ofComps` of `[l]` and of `a ++ b`, and on `String()` written as one equation (`RelPath.str_eq`, `str_ofComps`).
  What `String()` begins with (`RelPath.str_head`, `RelPath.str_up`) holds of every value, canonical or not.
-/
namespace Rio

theorem splitOn_ne_nil (c : UInt8) (s : Bytes) : splitOn c s ≠ [] := by
  cases s with
  | nil => simp [splitOn]
  | cons x xs =>
    simp only [splitOn]
    split
    · simp
    · split <;> simp

theorem splitOn_append_sep (c : UInt8) (a b : Bytes) :
    splitOn c (a ++ c :: b) = splitOn c a ++ splitOn c b := by
  induction a with
  | nil => simp [splitOn]
  | cons x xs ih =>
    obtain ⟨hd, tl, h⟩ := List.exists_cons_of_ne_nil (splitOn_ne_nil c xs)
    simp only [List.cons_append, splitOn, ih, h]
    split <;> rfl

theorem splitOn_nosep (c : UInt8) (s : Bytes) (h : c ∉ s) : splitOn c s = [s] := by
  induction s with
  | nil => rfl
  | cons x xs ih =>
    rw [List.mem_cons, not_or] at h
    simp only [splitOn, if_neg (Ne.symm h.1), ih h.2]

theorem splitOn_joinWith (c : UInt8) (cs : List Bytes) (h0 : cs ≠ []) (hn : ∀ x ∈ cs, c ∉ x) :
    splitOn c (joinWith c cs) = cs := by
  induction cs with
  | nil => exact absurd rfl h0
  | cons a rest ih =>
    obtain ⟨ha, hn'⟩ := List.forall_mem_cons.1 hn
    cases rest with
    | nil => exact splitOn_nosep c a ha
    | cons b rest =>
      rw [joinWith, splitOn_append_sep, splitOn_nosep c a ha, ih (List.cons_ne_nil _ _) hn']
      rfl

/-- Every string is the join of pieces free of the separator; by `splitOn_joinWith` these are the pieces `splitOn`
    returns. -/
theorem exists_joinWith (c : UInt8) (s : Bytes) : ∃ cs, cs ≠ [] ∧ (∀ x ∈ cs, c ∉ x) ∧ joinWith c cs = s := by
  induction s with
  | nil => exact ⟨[[]], by simp, by simp, rfl⟩
  | cons x xs ih =>
    obtain ⟨_ | ⟨h, t⟩, h0, hn, rfl⟩ := ih
    · exact absurd rfl h0
    · obtain ⟨hh, ht⟩ := List.forall_mem_cons.1 hn
      by_cases hx : x = c
      · exact ⟨[] :: h :: t, by simp, List.forall_mem_cons.2 ⟨by simp, hn⟩, by rw [hx]; rfl⟩
      · refine ⟨(x :: h) :: t, by simp, List.forall_mem_cons.2 ⟨by simp [hh, Ne.symm hx], ht⟩, ?_⟩
        cases t <;> rfl

theorem splitOn_mem_nosep (c : UInt8) (s : Bytes) : ∀ x ∈ splitOn c s, c ∉ x := by
  obtain ⟨cs, h0, hn, rfl⟩ := exists_joinWith c s
  rwa [splitOn_joinWith c cs h0 hn]

theorem joinWith_splitOn (c : UInt8) (s : Bytes) : joinWith c (splitOn c s) = s := by
  obtain ⟨cs, h0, hn, rfl⟩ := exists_joinWith c s
  rw [splitOn_joinWith c cs h0 hn]

theorem joinWith_cons_cons (c : UInt8) (a b : Bytes) (rest : List Bytes) :
    joinWith c (a :: b :: rest) = a ++ c :: joinWith c (b :: rest) := rfl

theorem joinWith_append (c : UInt8) (a b : List Bytes) (ha : a ≠ []) (hb : b ≠ []) :
    joinWith c (a ++ b) = joinWith c a ++ c :: joinWith c b := by
  obtain ⟨y, ys, rfl⟩ := List.exists_cons_of_ne_nil hb
  induction a with
  | nil => exact absurd rfl ha
  | cons x xs ih =>
    cases xs with
    | nil => rfl
    | cons x' xs =>
      rw [List.cons_append, List.cons_append, joinWith_cons_cons, ← List.cons_append, ih (List.cons_ne_nil _ _),
        joinWith_cons_cons, List.append_assoc]
      rfl

theorem joinWith_cons_ne_nil (c : UInt8) (a : Bytes) (rest : List Bytes) (ha : a ≠ []) :
    joinWith c (a :: rest) ≠ [] := by
  cases rest <;> simp [joinWith, ha]

theorem joinWith_cons_head (c : UInt8) (a : Bytes) (rest : List Bytes) (ha : a ≠ []) :
    (joinWith c (a :: rest)).head? = a.head? := by
  cases a with
  | nil => exact absurd rfl ha
  | cons x xs => cases rest <;> simp [joinWith]

/-- What a join begins with, up to its end or the first separator, is its first piece (`splitOn` gives the pieces
    back). -/
theorem joinWith_first {c : UInt8} {a d : Bytes} {rest : List Bytes} (h : ∀ x ∈ a :: rest, c ∉ x) (hd : c ∉ d)
    (e : joinWith c (a :: rest) = d ∨ d ++ [c] <+: joinWith c (a :: rest)) : a = d := by
  have hs := splitOn_joinWith c (a :: rest) (List.cons_ne_nil _ _) h
  rcases e with e | ⟨t, e⟩
  · rw [e, splitOn_nosep c d hd] at hs
    exact (List.cons.inj hs).1.symm
  · rw [← e, List.append_assoc, List.singleton_append, splitOn_append_sep, splitOn_nosep c d hd] at hs
    exact (List.cons.inj hs).1.symm

/-- `..`.  The model spells it `[dot, dot]` (`cleanStep`, `resolveSegsWith`).  The two are the same term by `rfl`, so a
    hypothesis in one spelling is accepted where the other is expected; but `rw` and `simp` do not unfold `dd` and
    will not match one against the other. -/
def dd : Bytes := [dot, dot]

def Normal (c : Bytes) : Prop := c ≠ [] ∧ c ≠ [dot] ∧ c ≠ dd ∧ slash ∉ c

/-- a path segment: what `strings.Split(s, "/")` yields, minus the `""` and `"."` that `path.Clean` and the osfs resolver
    skip; either `..` or a normal component -/
def Seg (s : Bytes) : Prop := s ≠ [] ∧ s ≠ [dot] ∧ slash ∉ s

theorem Normal.seg {c : Bytes} (h : Normal c) : Seg c := ⟨h.1, h.2.1, h.2.2.2⟩

theorem Seg.cases {s : Bytes} (hs : Seg s) : s = dd ∨ Normal s := by
  by_cases e : s = dd
  · exact Or.inl e
  · exact Or.inr ⟨hs.1, hs.2.1, e, hs.2.2⟩

/-- `ups ++ names`; for rooted paths there are no `ups`. -/
def CleanComps (rooted : Bool) (cs : List Bytes) : Prop :=
  ∃ ups names, cs = ups ++ names ∧ (∀ c ∈ ups, c = dd) ∧ (∀ c ∈ names, Normal c) ∧ (rooted = true → ups = [])

/-- the reversed working stack of `cleanComps`: names on top of ups -/
def CleanStack (rooted : Bool) (st : List Bytes) : Prop :=
  ∃ names ups, st = names ++ ups ∧ (∀ c ∈ ups, c = dd) ∧ (∀ c ∈ names, Normal c) ∧ (rooted = true → ups = [])

theorem cleanStack_reverse {r : Bool} {st : List Bytes} (h : CleanStack r st) : CleanComps r st.reverse := by
  obtain ⟨names, ups, rfl, hu, hn, hr⟩ := h
  exact ⟨ups.reverse, names.reverse, List.reverse_append, fun c hc => hu c (List.mem_reverse.1 hc),
    fun c hc => hn c (List.mem_reverse.1 hc), fun h => by rw [hr h]; rfl⟩

theorem cleanComps_reverse {r : Bool} {cs : List Bytes} (h : CleanComps r cs) : CleanStack r cs.reverse := by
  obtain ⟨ups, names, rfl, hu, hn, hr⟩ := h
  exact ⟨names.reverse, ups.reverse, List.reverse_append, fun c hc => hu c (List.mem_reverse.1 hc),
    fun c hc => hn c (List.mem_reverse.1 hc), fun h => by rw [hr h]; rfl⟩

theorem CleanComps.nil (r : Bool) : CleanComps r [] := ⟨[], [], rfl, nofun, nofun, fun _ => rfl⟩

theorem allNormal_clean {a : List Bytes} (h : ∀ c ∈ a, Normal c) : CleanComps false a :=
  ⟨[], a, rfl, nofun, h, fun _ => rfl⟩

theorem Seg.clean {s : Bytes} (hs : Seg s) : CleanComps false [s] := by
  rcases hs.cases with e | e
  · exact ⟨[s], [], rfl, List.forall_mem_singleton.2 e, nofun, nofun⟩
  · exact allNormal_clean (List.forall_mem_singleton.2 e)

theorem CleanComps.mem {r : Bool} {cs : List Bytes} (h : CleanComps r cs) : ∀ c ∈ cs, Seg c := by
  obtain ⟨ups, names, rfl, hu, hn, _⟩ := h
  refine List.forall_mem_append.2 ⟨fun c hc => ?_, fun c hc => (hn c hc).seg⟩
  rw [hu c hc]
  simp [Seg, dd, dot, slash]

theorem CleanComps.split {r : Bool} {a b : List Bytes} (h : CleanComps r (a ++ b)) :
    CleanComps r a ∧ CleanComps r b := by
  obtain ⟨ups, names, he, hu, hn, hr⟩ := h
  rcases List.append_eq_append_iff.1 he with ⟨m, rfl, rfl⟩ | ⟨m, rfl, rfl⟩
  · -- the cut falls among the `..`s: they are `a ++ m`
    obtain ⟨hua, hum⟩ := List.forall_mem_append.1 hu
    exact ⟨⟨a, [], (List.append_nil a).symm, hua, by simp, fun e => (List.append_eq_nil_iff.1 (hr e)).1⟩,
      ⟨m, names, rfl, hum, hn, fun e => (List.append_eq_nil_iff.1 (hr e)).2⟩⟩
  · -- among the names: they are `m ++ b`
    obtain ⟨hnm, hnb⟩ := List.forall_mem_append.1 hn
    exact ⟨⟨ups, m, rfl, hu, hnm, hr⟩, ⟨[], b, rfl, by simp, hnb, fun _ => rfl⟩⟩

theorem CleanComps.append_normal {r : Bool} {a b : List Bytes} (ha : CleanComps r a) (hb : ∀ c ∈ b, Normal c) :
    CleanComps r (a ++ b) := by
  obtain ⟨ups, names, rfl, hu, hn, hr⟩ := ha
  exact ⟨ups, names ++ b, List.append_assoc _ _ _, hu, List.forall_mem_append.2 ⟨hn, hb⟩, hr⟩

theorem dd_not_normal : ¬ Normal dd := fun h => h.2.2.1 rfl

theorem head?_ne_dd {cs : List Bytes} (h : ∀ c ∈ cs, Normal c) : cs.head? ≠ some dd :=
  fun e => dd_not_normal (h dd (List.mem_of_mem_head? e))

/-- the `..`s of a clean list come first: one that does not begin with `..` has none -/
theorem CleanComps.normal_of_head {r : Bool} {b : List Bytes} (hb : CleanComps r b) (hh : b.head? ≠ some dd) :
    ∀ c ∈ b, Normal c := by
  obtain ⟨ups, names, rfl, hu, hn, _⟩ := hb
  cases ups with
  | nil => exact hn
  | cons u us => exact absurd (congrArg some (hu u List.mem_cons_self)) hh

theorem normal_snoc {pre : List Bytes} {c : Bytes} (hpre : ∀ x ∈ pre, Normal x) (hc : Normal c) :
    ∀ x ∈ pre ++ [c], Normal x :=
  List.forall_mem_append.2 ⟨hpre, List.forall_mem_singleton.2 hc⟩

theorem cleanStep_normal (r : Bool) (st : List Bytes) {c : Bytes} (h : Normal c) : cleanStep r st c = c :: st := by
  obtain ⟨h1, h2, h3, _⟩ := h
  simp only [dd] at h3
  simp [cleanStep, h1, h2, h3]

theorem cleanStep_skip (r : Bool) (st : List Bytes) {c : Bytes} (h : c = [] ∨ c = [dot]) : cleanStep r st c = st := by
  simp [cleanStep, h]

theorem cleanStep_pop (r : Bool) {n : Bytes} (st : List Bytes) (h : n ≠ dd) : cleanStep r (n :: st) dd = st := by
  simp only [dd] at h
  simp [cleanStep, dd, h]

theorem cleanStep_up {st : List Bytes} (h : ∀ c ∈ st, c = dd) : cleanStep false st dd = dd :: st := by
  cases st with
  | nil => rfl
  | cons t ts =>
    rw [(List.forall_mem_cons.1 h).1]
    rfl

theorem cleanStep_stack {r : Bool} {st : List Bytes} {c : Bytes} (hc : slash ∉ c) (h : CleanStack r st) :
    CleanStack r (cleanStep r st c) := by
  obtain ⟨names, ups, rfl, hu, hns, hr⟩ := h
  by_cases hn : Normal c
  · rw [cleanStep_normal r _ hn]
    exact ⟨c :: names, ups, rfl, hu, List.forall_mem_cons.2 ⟨hn, hns⟩, hr⟩
  · by_cases hs : c = [] ∨ c = [dot]
    · rw [cleanStep_skip r _ hs]
      exact ⟨names, ups, rfl, hu, hns, hr⟩
    · have hdd : c = dd := Decidable.of_not_not fun e => hn ⟨(not_or.1 hs).1, (not_or.1 hs).2, e, hc⟩
      subst hdd
      cases names with
      | cons n ns =>
        rw [List.cons_append, cleanStep_pop r _ (hns n List.mem_cons_self).2.2.1]
        exact ⟨ns, ups, rfl, hu, (List.forall_mem_cons.1 hns).2, hr⟩
      | nil =>
        cases r with
        | false =>
          rw [List.nil_append, cleanStep_up hu]
          exact ⟨[], dd :: ups, rfl, List.forall_mem_cons.2 ⟨rfl, hu⟩, hns, fun e => Bool.noConfusion e⟩
        | true =>
          obtain rfl : ups = [] := hr rfl
          exact ⟨[], [], rfl, hu, hns, fun _ => rfl⟩

theorem cleanComps_clean (r : Bool) {cs : List Bytes} (hcs : ∀ c ∈ cs, slash ∉ c) : CleanComps r (cleanComps r cs) :=
  cleanStack_reverse (List.foldlRecOn cs (cleanStep r) (cleanComps_reverse (CleanComps.nil r))
    fun _ h c hc => cleanStep_stack (hcs c hc) h)

theorem foldl_cleanStep_names (r : Bool) {names : List Bytes} (hn : ∀ c ∈ names, Normal c) :
    ∀ st, names.foldl (cleanStep r) st = names.reverse ++ st := by
  induction names with
  | nil => intro st; rfl
  | cons n ns ih =>
    intro st
    obtain ⟨h1, h2⟩ := List.forall_mem_cons.1 hn
    rw [List.foldl_cons, cleanStep_normal r st h1, ih h2, List.reverse_cons, List.append_assoc]
    rfl

theorem foldl_cleanStep_ups {ups : List Bytes} (hu : ∀ c ∈ ups, c = dd) :
    ∀ st, (∀ c ∈ st, c = dd) → ups.foldl (cleanStep false) st = ups.reverse ++ st := by
  induction ups with
  | nil => intro st _; rfl
  | cons u us ih =>
    intro st hst
    obtain ⟨rfl, hus⟩ := List.forall_mem_cons.1 hu
    rw [List.foldl_cons, cleanStep_up hst, ih hus _ (List.forall_mem_cons.2 ⟨rfl, hst⟩), List.reverse_cons,
      List.append_assoc]
    rfl

theorem foldl_cleanStep_skip (r : Bool) {pre : List Bytes} (hp : ∀ c ∈ pre, c = [] ∨ c = [dot]) :
    ∀ st, pre.foldl (cleanStep r) st = st := by
  induction pre with
  | nil => intro st; rfl
  | cons c cs ih =>
    intro st
    obtain ⟨hc, hcs⟩ := List.forall_mem_cons.1 hp
    rw [List.foldl_cons, cleanStep_skip r st hc, ih hcs]

theorem cleanComps_id {r : Bool} {cs : List Bytes} (h : CleanComps r cs) : cleanComps r cs = cs := by
  obtain ⟨ups, names, rfl, hu, hn, hr⟩ := h
  unfold cleanComps
  rw [List.foldl_append]
  cases r with
  | true =>
    have : ups = [] := hr rfl
    subst this
    simp [foldl_cleanStep_names true hn]
  | false =>
    rw [foldl_cleanStep_ups hu [] (by simp), foldl_cleanStep_names false hn]
    simp

theorem cleanComps_append (r : Bool) (a b : List Bytes) :
    cleanComps r (a ++ b) = (b.foldl (cleanStep r) (cleanComps r a).reverse).reverse := by
  simp [cleanComps]

/-- cleaning is idempotent on the left part: `clean (a ++ b) = clean (clean a ++ b)` -/
theorem cleanComps_append_left (r : Bool) (a b : List Bytes) (ha : ∀ c ∈ a, slash ∉ c) :
    cleanComps r (a ++ b) = cleanComps r (cleanComps r a ++ b) := by
  rw [cleanComps_append, cleanComps_append, cleanComps_id (cleanComps_clean r ha)]

theorem cleanComps_snoc_dd {init : List Bytes} {l : Bytes} (h : ∀ c ∈ init ++ [l], Normal c) :
    cleanComps false (init ++ [l] ++ [dd]) = init := by
  rw [cleanComps_append, cleanComps_id (allNormal_clean h), List.reverse_append]
  -- the stack is `l :: init.reverse`, and `..` pops `l`
  show (cleanStep false (l :: init.reverse) dd).reverse = init
  rw [cleanStep_pop false _ (h l (List.mem_append_right _ List.mem_cons_self)).2.2.1, List.reverse_reverse]

theorem cleanComps_skip_mid (r : Bool) (x : List Bytes) {pre : List Bytes} (y : List Bytes)
    (hp : ∀ c ∈ pre, c = [] ∨ c = [dot]) : cleanComps r (x ++ pre ++ y) = cleanComps r (x ++ y) := by
  simp [cleanComps, foldl_cleanStep_skip r hp]

theorem cleanComps_skip_left (r : Bool) {pre : List Bytes} (y : List Bytes) (hp : ∀ c ∈ pre, c = [] ∨ c = [dot]) :
    cleanComps r (pre ++ y) = cleanComps r y :=
  cleanComps_skip_mid r [] y hp

/-- a clean list whose rendering does not start with `.` (what `Join` tests) has no `..` entries -/
theorem all_normal_of_head {b : List Bytes} (hb : CleanComps false b) (hh : (joinWith slash b).head? ≠ some dot) :
    ∀ c ∈ b, Normal c := by
  refine hb.normal_of_head fun e => hh ?_
  obtain ⟨rest, rfl⟩ := List.head?_eq_some_iff.1 e
  rw [joinWith_cons_head slash dd rest (List.cons_ne_nil _ _)]
  rfl

/-- the rendering of a non-empty clean list is not empty, not `.`, and does not start with `./` or `/`:
    its first component is neither empty nor `.`  (The order is that of `RelPath.WF`.) -/
theorem render_facts {cs : List Bytes} (h : CleanComps false cs) (hne : cs ≠ []) :
    joinWith slash cs ≠ [] ∧ joinWith slash cs ≠ [dot] ∧ ¬ ([dot, slash] <+: joinWith slash cs) ∧
    (joinWith slash cs).head? ≠ some slash := by
  obtain ⟨a, rest, rfl⟩ := List.exists_cons_of_ne_nil hne
  obtain ⟨ha0, had, _⟩ := h.mem a List.mem_cons_self
  have hn : ∀ x ∈ a :: rest, slash ∉ x := fun x hx => (h.mem x hx).2.2
  have h0 : slash ∉ ([] : Bytes) := List.not_mem_nil
  have hd : slash ∉ [dot] := by decide
  refine ⟨fun e => ha0 (joinWith_first hn h0 (.inl e)), fun e => had (joinWith_first hn hd (.inl e)),
    fun e => had (joinWith_first hn hd (.inr e)), fun e => ?_⟩
  obtain ⟨t, et⟩ := List.head?_eq_some_iff.1 e
  exact ha0 (joinWith_first hn h0 (.inr ⟨t, et.symm⟩))

theorem count_joinWith {cs : List Bytes} (h0 : cs ≠ []) (hn : ∀ x ∈ cs, slash ∉ x) :
    RelPath.countSlash (joinWith slash cs) + 1 = cs.length := by
  induction cs with
  | nil => exact absurd rfl h0
  | cons a rest ih =>
    obtain ⟨ha, hn'⟩ := List.forall_mem_cons.1 hn
    cases rest with
    | nil =>
      rw [joinWith, RelPath.countSlash, List.count_eq_zero.2 ha]
      rfl
    | cons b rest =>
      rw [joinWith_cons_cons, RelPath.countSlash, List.count_append, List.count_cons_self, List.count_eq_zero.2 ha,
        Nat.zero_add, List.length_cons, ← ih (List.cons_ne_nil _ _) hn', RelPath.countSlash]

/-- the value `MustRelPath` builds for a clean component list -/
def ofComps (cs : List Bytes) : RelPath :=
  if cs = [] then ⟨[], 0⟩ else ⟨joinWith slash cs, lastIndexOf slash (joinWith slash cs)⟩

/-- A canonical relative path value. -/
def RelPath.Clean (p : RelPath) : Prop := ∃ cs, CleanComps false cs ∧ p = ofComps cs

/-- Component lists: every entry non-empty and free of `/`.  `Dir`, `Last`, `Split`, `GoesUp` and `String` act on
    `ofComps` of such a list by its components; that the list is clean matters only to parsing and to `Join`. -/
def Comps (cs : List Bytes) : Prop := ∀ c ∈ cs, c ≠ [] ∧ slash ∉ c

theorem Comps.of_clean {cs : List Bytes} (h : CleanComps false cs) : Comps cs :=
  fun c hc => ⟨(h.mem c hc).1, (h.mem c hc).2.2⟩

theorem Comps.of_normal {cs : List Bytes} (h : ∀ c ∈ cs, Normal c) : Comps cs :=
  fun c hc => ⟨(h c hc).1, (h c hc).2.2.2⟩

theorem Comps.splitOn_joinWith {cs : List Bytes} (h : Comps cs) (h0 : cs ≠ []) :
    splitOn slash (joinWith slash cs) = cs :=
  Rio.splitOn_joinWith slash cs h0 fun x hx => (h x hx).2

theorem ofComps_path {cs : List Bytes} (h0 : cs ≠ []) : (ofComps cs).path = joinWith slash cs := by
  simp [ofComps, h0]

theorem ofComps_lastSplit {cs : List Bytes} (h0 : cs ≠ []) :
    (ofComps cs).lastSplit = lastIndexOf slash (joinWith slash cs) := by
  simp [ofComps, h0]

theorem ofComps_path_nil {cs : List Bytes} (h : Comps cs) : (ofComps cs).path = [] ↔ cs = [] := by
  cases cs with
  | nil => simp [ofComps]
  | cons a rest => simpa [ofComps] using joinWith_cons_ne_nil slash a rest (h a List.mem_cons_self).1

theorem ofComps_path_ne_nil {cs : List Bytes} (h : Comps cs) (h0 : cs ≠ []) : (ofComps cs).path ≠ [] :=
  mt (ofComps_path_nil h).1 h0

theorem ofComps_path_inj {a b : List Bytes} (ha : Comps a) (hb : Comps b)
    (hp : (ofComps a).path = (ofComps b).path) : a = b := by
  by_cases ha0 : a = []
  · subst ha0
    exact ((ofComps_path_nil hb).1 hp.symm).symm
  · by_cases hb0 : b = []
    · subst hb0
      exact absurd ((ofComps_path_nil ha).1 hp) ha0
    · rw [ofComps_path ha0, ofComps_path hb0] at hp
      rw [← ha.splitOn_joinWith ha0, hp, hb.splitOn_joinWith hb0]

theorem ofComps_inj {a b : List Bytes} (ha : Comps a) (hb : Comps b) (h : ofComps a = ofComps b) : a = b :=
  ofComps_path_inj ha hb (congrArg RelPath.path h)

theorem clean_path_inj {p q : RelPath} (hp : p.Clean) (hq : q.Clean) (h : p.path = q.path) : p = q := by
  obtain ⟨a, ha, rfl⟩ := hp
  obtain ⟨b, hb, rfl⟩ := hq
  rw [ofComps_path_inj (Comps.of_clean ha) (Comps.of_clean hb) h]

/-! ### `ofComps` on `[l]`, on `a ++ b`, on `init ++ [l]`

The root has split index 0 and a single name has -1 (Go's `LastIndexByte`), so the case `init = []` is apart. -/

theorem ofComps_single {l : Bytes} (hl : slash ∉ l) : ofComps [l] = ⟨l, -1⟩ := by
  simp [ofComps, joinWith, (lastIndexOf_neg_iff slash l).2 hl]

/-- the value `Join` builds when it need not clean again -/
theorem ofComps_append {a b : List Bytes} (ha : a ≠ []) (hb : b ≠ []) :
    ofComps (a ++ b) = ⟨joinWith slash a ++ slash :: joinWith slash b,
      ((joinWith slash a).length : Int) + (ofComps b).lastSplit + 1⟩ := by
  simp [ofComps, hb, joinWith_append slash a b ha hb, lastIndexOf_append_sep]

theorem ofComps_snoc {init : List Bytes} {l : Bytes} (hi : init ≠ []) (hl : slash ∉ l) :
    ofComps (init ++ [l]) = ⟨joinWith slash init ++ slash :: l, (joinWith slash init).length⟩ := by
  rw [ofComps_append hi (List.cons_ne_nil _ _), ofComps_single hl]
  simp only [joinWith, RelPath.mk.injEq, true_and]
  omega

theorem cleanComps_splitOn_clean (r : Bool) (s : Bytes) : CleanComps r (cleanComps r (splitOn slash s)) :=
  cleanComps_clean r (splitOn_mem_nosep slash s)

theorem mustRel_eq {s : Bytes} (h : s.head? ≠ some slash) :
    mustRel s = some (ofComps (cleanComps false (splitOn slash s))) := by
  cases s with
  | nil => decide
  | cons c t =>
    have hc : ¬ c = slash := by simpa using h
    have hcl := cleanComps_splitOn_clean false (c :: t)
    generalize hcs : cleanComps false (splitOn slash (c :: t)) = cs at hcl
    have hg : goClean (c :: t) = if joinWith slash cs = [] then [dot] else joinWith slash cs := by
      simp [goClean, hc, hcs]
    by_cases h0 : cs = []
    · subst h0
      simp [mustRel, hg, joinWith, ofComps, dot, slash]
    · obtain ⟨hnil, hdot, _, hrooted⟩ := render_facts hcl h0
      simp [mustRel, hg, hnil, hdot, hrooted, ofComps, h0]

theorem mustRel_rooted {s : Bytes} (h : s.head? = some slash) : mustRel s = none := by
  cases s with
  | nil => simp at h
  | cons c t =>
    have hc : c = slash := by simpa using h
    simp [mustRel, goClean, hc]

theorem mustRel_clean {s : Bytes} {p : RelPath} (h : mustRel s = some p) : p.Clean := by
  by_cases hs : s.head? = some slash
  · rw [mustRel_rooted hs] at h; cases h
  · rw [mustRel_eq hs] at h
    exact ⟨_, cleanComps_splitOn_clean false s, (Option.some.inj h).symm⟩

/-- `mustRel` behind its panic test, as one term.  `RelPath.join` does not call `MustRelPath`: where it cleans again it
    repeats this expression on its own string, and this lemma is how a fact about `mustRel` gets there. -/
theorem mustRel_unfold {s : Bytes} {v : RelPath} (h : mustRel s = some v) :
    (if goClean s = [dot] then (⟨[], 0⟩ : RelPath) else ⟨goClean s, lastIndexOf slash (goClean s)⟩) = v := by
  unfold mustRel at h
  simp only at h
  split at h
  · cases h
  · exact Option.some.inj ((apply_ite some _ _ _).trans h)

theorem dir_snoc {init : List Bytes} {l : Bytes} (h : Comps (init ++ [l])) :
    (ofComps (init ++ [l])).dir = ofComps init := by
  obtain ⟨h0, hl⟩ := h l (by simp)
  by_cases hi : init = []
  · subst hi
    rw [List.nil_append, ofComps_single hl]
    simp [RelPath.dir, h0, ofComps]
  · rw [ofComps_snoc hi hl]
    simp [RelPath.dir, ofComps, hi]

theorem last_snoc {init : List Bytes} {l : Bytes} (h : Comps (init ++ [l])) :
    (ofComps (init ++ [l])).last = l := by
  obtain ⟨h0, hl⟩ := h l (by simp)
  by_cases hi : init = []
  · subst hi
    rw [List.nil_append, ofComps_single hl, RelPath.last, if_neg h0, if_pos rfl]
  · rw [ofComps_snoc hi hl, RelPath.last, if_neg (by simp), if_neg (by simp)]
    simp only [Int.toNat_natCast_add_one, List.drop_length_add_append]
    rfl

theorem dirChain_append (n : Nat) : ∀ (p : RelPath) (a b : List RelPath),
    RelPath.dirChain n p (a ++ b) = RelPath.dirChain n p a ++ b := by
  induction n with
  | zero => intro p a b; rfl
  | succ n ih => intro p a b; exact ih p.dir (p.dir :: a) b

theorem RelPath.split_eq (p : RelPath) (h : p.path ≠ []) : p.split = p.splitParent ++ [p] := by
  unfold RelPath.split RelPath.splitParent
  rw [if_neg h, if_neg h]
  split
  · rfl
  · exact dirChain_append _ p.dir [p.dir] [p]

theorem dir_take {cs : List Bytes} (h : Comps cs) (k : Nat) (hk : k < cs.length) :
    (ofComps (cs.take (k + 1))).dir = ofComps (cs.take k) := by
  rw [List.take_succ_eq_append_getElem hk]
  exact dir_snoc (fun c hc => h c (by
    rcases List.mem_append.1 hc with hc | hc
    · exact List.mem_of_mem_take hc
    · exact List.mem_singleton.1 hc ▸ List.getElem_mem hk))

theorem dirChain_take {cs : List Bytes} (h : Comps cs) : ∀ (n : Nat) (acc : List RelPath), n ≤ cs.length →
    RelPath.dirChain n (ofComps (cs.take n)) acc = (List.range n).map (fun j => ofComps (cs.take j)) ++ acc := by
  intro n
  induction n with
  | zero => intro acc _; rfl
  | succ n ih =>
    intro acc hn
    rw [RelPath.dirChain, dir_take h n hn, ih _ (Nat.le_of_succ_le hn), List.range_succ]
    simp

theorem splitParent_ofComps {cs : List Bytes} (h : Comps cs) :
    (ofComps cs).splitParent = (List.range cs.length).map (fun k => ofComps (cs.take k)) := by
  rcases eq_nil_or_snoc cs with rfl | ⟨init, l, rfl⟩
  · rfl
  · have h0 : init ++ [l] ≠ [] := by simp
    have hcnt := count_joinWith h0 (fun x hx => (h x hx).2)
    rw [List.length_append, List.length_singleton, Nat.add_right_cancel_iff] at hcnt
    -- the right side is `dirChain init.length (ofComps init) [ofComps init]`
    rw [List.length_append, List.length_singleton, List.range_succ, List.map_append, List.map_singleton,
      ← dirChain_take h init.length _ (by simp), List.take_left' rfl]
    unfold RelPath.splitParent
    rw [if_neg (ofComps_path_ne_nil h h0), dir_snoc h, ofComps_path h0, hcnt]
    split
    · -- Go's case of a single name is the general one: split index -1, so no `/`, so `init = []`
      rename_i hls
      rw [ofComps_lastSplit h0, lastIndexOf_neg_iff] at hls
      rw [RelPath.countSlash, List.count_eq_zero.2 hls] at hcnt
      rw [List.length_eq_zero_iff.1 hcnt.symm]
      rfl
    · rfl

theorem split_ofComps {cs : List Bytes} (h : Comps cs) :
    (ofComps cs).split = (List.range (cs.length + 1)).map (fun k => ofComps (cs.take k)) := by
  by_cases h0 : cs = []
  · subst h0; rfl
  · rw [RelPath.split_eq _ (ofComps_path_ne_nil h h0), splitParent_ofComps h, List.range_succ]
    simp

theorem RelPath.goesUp_iff (p : RelPath) :
    p.goesUp = true ↔ (p.path = [dot, dot] ∨ [dot, dot, slash] <+: p.path) := by
  simp [RelPath.goesUp]

theorem RelPath.prefix_of_goesUp {p : RelPath} (h : p.goesUp = true) : [dot, dot] <+: p.path := by
  rcases p.goesUp_iff.1 h with e | ⟨t, e⟩
  · exact e ▸ List.prefix_refl _
  · exact ⟨slash :: t, e⟩

theorem RelPath.head_of_goesUp {p : RelPath} (h : p.goesUp = true) : p.path.head? = some dot := by
  obtain ⟨t, e⟩ := RelPath.prefix_of_goesUp h
  rw [← e]
  rfl

theorem RelPath.str_eq (r : RelPath) :
    r.str = if r.path = [] then [dot] else if r.goesUp = true then r.path else dot :: slash :: r.path := by
  have e1 : (r.path.length = 2 ∧ r.path.take 2 = [dot, dot]) ↔ r.path = [dot, dot] :=
    ⟨fun ⟨hl, ht⟩ => by rw [← ht, List.take_of_length_le (Nat.le_of_eq hl)], fun e => by rw [e]; exact ⟨rfl, rfl⟩⟩
  have e2 : (r.path.length > 2 ∧ r.path.take 3 = [dot, dot, slash]) ↔ [dot, dot, slash] <+: r.path :=
    ⟨fun ⟨_, ht⟩ => List.prefix_iff_eq_take.2 ht.symm, fun hp => ⟨hp.length_le, (List.prefix_iff_eq_take.1 hp).symm⟩⟩
  simp only [RelPath.str, RelPath.goesUp_iff, e1, e2]
  by_cases h1 : r.path = [dot, dot]
  · rw [if_pos h1, if_pos (Or.inl h1)]
  · simp only [h1, false_or, if_false]

theorem RelPath.str_head (p : RelPath) : p.str.head? = some dot := by
  rw [RelPath.str_eq]
  split
  · rfl
  · split
    · exact RelPath.head_of_goesUp ‹_›
    · rfl

theorem RelPath.str_ne_nil (p : RelPath) : p.str ≠ [] := by
  intro e
  have := p.str_head
  rw [e] at this
  cases this

theorem RelPath.str_not_rooted (p : RelPath) : p.str.head? ≠ some slash := by
  rw [p.str_head]
  decide

theorem RelPath.str_up (p : RelPath) : hasPrefix p.str [dot, dot] = p.goesUp := by
  rw [RelPath.str_eq]
  by_cases h0 : p.path = []
  · rw [if_pos h0, RelPath.goesUp, h0]
    rfl
  · rw [if_neg h0]
    by_cases hu : p.goesUp = true
    · rw [if_pos hu, hu]
      exact hasPrefix_iff.2 (RelPath.prefix_of_goesUp hu)
    · rw [if_neg hu, Bool.eq_false_iff.2 hu]
      rfl

/-- The unpackers refuse a name by looking at what it prints as: `hasPrefix name.str [dot, dot]` (`unpackEntry`,
    `unpackZipEntry`), which by `str_up` is `goesUp`.  A name that passes prints as `.` or behind `./`, which is what
    `Anchored` (`Rio/Proofs/NoCrash.lean`) asks of a record's name. -/
theorem RelPath.str_anchored (p : RelPath) (h : hasPrefix p.str [dot, dot] = false) :
    p.str = [dot] ∨ hasPrefix p.str [dot, slash] = true := by
  rw [RelPath.str_up] at h
  rw [RelPath.str_eq]
  split
  · exact Or.inl rfl
  · rw [if_neg (Bool.eq_false_iff.1 h)]
    exact Or.inr (hasPrefix_iff.2 ⟨p.path, rfl⟩)

theorem goesUp_ofComps {cs : List Bytes} (h : Comps cs) : (ofComps cs).goesUp = true ↔ cs.head? = some dd := by
  cases cs with
  | nil => decide
  | cons a rest =>
    rw [RelPath.goesUp_iff, ofComps_path (List.cons_ne_nil _ _), List.head?_cons, Option.some.injEq]
    constructor
    · exact joinWith_first (fun x hx => (h x hx).2) (by decide)
    · rintro rfl
      cases rest with
      | nil => exact Or.inl rfl
      | cons b bs => exact Or.inr ⟨joinWith slash (b :: bs), rfl⟩

theorem str_ofComps {cs : List Bytes} (h : Comps cs) :
    (ofComps cs).str = if cs = [] then [dot] else
      if cs.head? = some dd then joinWith slash cs else dot :: slash :: joinWith slash cs := by
  simp only [RelPath.str_eq, ofComps_path_nil h, goesUp_ofComps h]
  split
  · rfl
  · rename_i h0
    rw [ofComps_path h0]

theorem str_ofComps_normal {cs : List Bytes} (h : ∀ c ∈ cs, Normal c) (h0 : cs ≠ []) :
    (ofComps cs).str = dot :: slash :: joinWith slash cs := by
  obtain ⟨a, rest, rfl⟩ := List.exists_cons_of_ne_nil h0
  have hd : ¬ a = dd := (h a List.mem_cons_self).2.2.1
  rw [str_ofComps (Comps.of_normal h)]
  simp [hd]

theorem goesUp_ofComps_eq_false {cs : List Bytes} (h : Comps cs) : (ofComps cs).goesUp = false ↔ cs.head? ≠ some dd := by
  rw [← Bool.not_eq_true, goesUp_ofComps h]

theorem goesUp_ofComps_normal {cs : List Bytes} (h : ∀ c ∈ cs, Normal c) : (ofComps cs).goesUp = false :=
  (goesUp_ofComps_eq_false (Comps.of_normal h)).2 (head?_ne_dd h)

/-- the unpackers' test (`RelPath.str_anchored`) on component lists -/
theorem notUp_iff {cs : List Bytes} (h : Comps cs) :
    hasPrefix (ofComps cs).str [dot, dot] = false ↔ cs.head? ≠ some dd := by
  rw [RelPath.str_up, goesUp_ofComps_eq_false h]

theorem notUp_ofComps_normal {cs : List Bytes} (h : ∀ c ∈ cs, Normal c) :
    hasPrefix (ofComps cs).str [dot, dot] = false :=
  (RelPath.str_up _).trans (goesUp_ofComps_normal h)

/-- what `String()` splits into: the components, possibly behind a `.` -/
theorem splitOn_str {cs : List Bytes} (h : Comps cs) :
    ∃ pre, (∀ c ∈ pre, c = [] ∨ c = [dot]) ∧ splitOn slash (ofComps cs).str = pre ++ cs := by
  have hd : splitOn slash [dot] = [[dot]] := by decide
  rw [str_ofComps h]
  by_cases h0 : cs = []
  · subst h0
    exact ⟨[[dot]], by simp, hd⟩
  · have hs := h.splitOn_joinWith h0
    rw [if_neg h0]
    split
    · exact ⟨[], by simp, hs⟩
    · refine ⟨[[dot]], by simp, ?_⟩
      rw [show dot :: slash :: joinWith slash cs = [dot] ++ slash :: joinWith slash cs from rfl,
        splitOn_append_sep, hs, hd]

theorem mustRel_str {cs : List Bytes} (h : CleanComps false cs) : mustRel (ofComps cs).str = some (ofComps cs) := by
  obtain ⟨pre, hpre, e⟩ := splitOn_str (Comps.of_clean h)
  rw [mustRel_eq (ofComps cs).str_not_rooted, e, cleanComps_skip_left false cs hpre, cleanComps_id h]

/-- a trailing `/` (how directories are written into the header) does not change what `MustRelPath` builds -/
theorem mustRel_trailing_slash {s : Bytes} (h : s.head? ≠ some slash) (h0 : s ≠ []) :
    mustRel (s ++ [slash]) = mustRel s := by
  have h' : (s ++ [slash]).head? ≠ some slash := by
    obtain ⟨x, xs, rfl⟩ := List.exists_cons_of_ne_nil h0
    exact h
  -- the `/` adds one empty component at the end, which the next step of `cleanComps` skips
  rw [mustRel_eq h', mustRel_eq h, splitOn_append_sep, show splitOn slash [] = [[]] from rfl, cleanComps_append,
    foldl_cleanStep_skip false (pre := [[]]) (by simp), List.reverse_reverse]

theorem join_ofComps {a b : List Bytes} (ha : CleanComps false a) (hb : CleanComps false b) :
    (ofComps a).join (ofComps b) = ofComps (cleanComps false (a ++ b)) := by
  have hpa := ofComps_path_nil (Comps.of_clean ha)
  have hpb := ofComps_path_nil (Comps.of_clean hb)
  unfold RelPath.join
  by_cases hb0 : b = []
  · rw [if_pos (hpb.2 hb0), hb0, List.append_nil, cleanComps_id ha]
  · rw [if_neg (mt hpb.1 hb0)]
    by_cases ha0 : a = []
    · rw [if_pos (hpa.2 ha0), ha0, List.nil_append, cleanComps_id hb]
    · rw [if_neg (mt hpa.1 ha0), ofComps_path ha0, ofComps_path hb0]
      split
      · -- `Join` cleans the concatenation again
        have hhead : (joinWith slash a ++ slash :: joinWith slash b).head? ≠ some slash := by
          obtain ⟨hnil, _, _, hrooted⟩ := render_facts ha ha0
          obtain ⟨x, xs, e⟩ := List.exists_cons_of_ne_nil hnil
          rwa [e] at hrooted ⊢
        have hm := mustRel_eq hhead
        rw [splitOn_append_sep, (Comps.of_clean ha).splitOn_joinWith ha0,
          (Comps.of_clean hb).splitOn_joinWith hb0] at hm
        exact mustRel_unfold hm
      · rename_i hd
        rw [cleanComps_id (ha.append_normal (all_normal_of_head hb hd)),
          ofComps_append ha0 hb0]

/-- canonical values that do not go up are lists of normal components, `Join` concatenates them, and the result does
    not go up either -/
theorem join_not_up {p q : RelPath} (hp : p.Clean) (hq : q.Clean) (h1 : p.goesUp = false) (h2 : q.goesUp = false) :
    (p.join q).goesUp = false := by
  obtain ⟨a, ha, rfl⟩ := hp
  obtain ⟨b, hb, rfl⟩ := hq
  have hab := List.forall_mem_append.2 ⟨ha.normal_of_head ((goesUp_ofComps_eq_false (Comps.of_clean ha)).1 h1),
    hb.normal_of_head ((goesUp_ofComps_eq_false (Comps.of_clean hb)).1 h2)⟩
  rw [join_ofComps ha hb, cleanComps_id (allNormal_clean hab)]
  exact goesUp_ofComps_normal hab

end Rio
