import Rio.Model.Tar
import Rio.Proofs.PathTheory
/-!
# The key of a record determines its path and whether it is a directory

`recordName m` (the key `AddRecord` files `m` under, and the name `MetadataToTarHdr` writes) is `String()` of the path,
with a trailing `/` for a directory.  For canonical paths it parses back to the path.  The bucket of the unpackers
(`Bucket.add`, `has`, `update`) is a list of records looked up by that key.
-/
namespace Rio

theorem mustRel_recordName (m : Meta) (hc : m.name.Clean) : mustRel (recordName m) = some m.name := by
  obtain ⟨cs, hcs, e⟩ := hc
  have hs : mustRel m.name.str = some m.name := e ▸ mustRel_str hcs
  unfold recordName
  split
  · rw [mustRel_trailing_slash m.name.str_not_rooted m.name.str_ne_nil, hs]
  · exact hs

theorem recordName_eq_iff (a b : Meta) (ha : a.name.Clean) (hb : b.name.Clean) :
    recordName a = recordName b ↔ a.name = b.name ∧ (a.kind = .dir ↔ b.kind = .dir) := by
  constructor
  · intro h
    have hn : a.name = b.name :=
      Option.some.inj ((mustRel_recordName a ha).symm.trans ((congrArg mustRel h).trans (mustRel_recordName b hb)))
    refine ⟨hn, ?_⟩
    unfold recordName at h
    rw [hn] at h
    -- with the names equal, the two keys can only differ by the trailing `/`
    by_cases hka : a.kind = .dir <;> by_cases hkb : b.kind = .dir <;> simp only [hka, hkb, if_true, if_false] at h ⊢
    all_goals
      have := congrArg List.length h
      simp at this
  · intro ⟨hn, hk⟩
    simp only [recordName, hn, hk]

namespace Bucket

theorem has_iff (b : Bucket) (m : Meta) : b.has m = true ↔ recordName m ∈ b.map (·.name) := by
  unfold Bucket.has
  simp only [List.any_eq_true, decide_eq_true_eq, List.mem_map]

theorem forall_mem_add {P : Record → Prop} {b : Bucket} {m : Meta} {ch : Bytes} :
    (∀ r ∈ b.add m ch, P r) ↔ (∀ r ∈ b, P r) ∧ P (mkRecord m ch) := by
  simp only [Bucket.add, List.forall_mem_append, List.forall_mem_singleton]

theorem forall_mem_update {P : Record → Prop} {b : Bucket} {m : Meta} {ch : Bytes}
    (hb : ∀ r ∈ b, P r) (hm : P (mkRecord m ch)) : ∀ r ∈ b.update m ch, P r := by
  intro r hr
  obtain ⟨r0, hr0, rfl⟩ := List.mem_map.1 hr
  split
  · exact hm
  · exact hb r0 hr0

theorem names_add (b : Bucket) (m : Meta) (ch : Bytes) :
    (b.add m ch).map (·.name) = b.map (·.name) ++ [recordName m] := by
  simp only [Bucket.add, List.map_append, List.map_cons, List.map_nil, mkRecord]

theorem names_update (b : Bucket) (m : Meta) (ch : Bytes) : (b.update m ch).map (·.name) = b.map (·.name) := by
  unfold Bucket.update
  rw [List.map_map]
  apply List.map_congr_left
  intro r _
  simp only [Function.comp]
  split
  · exact Eq.symm ‹r.name = recordName m›
  · rfl

theorem has_add (b : Bucket) (x m : Meta) (ch : Bytes) :
    (b.add x ch).has m = (b.has m || decide (recordName x = recordName m)) := by
  simp only [Bucket.has, Bucket.add, List.any_append, List.any_cons, List.any_nil, Bool.or_false, mkRecord]

theorem nodup_add {b : Bucket} {m : Meta} (ch : Bytes) (hb : (b.map (·.name)).Nodup) (hm : b.has m = false) :
    ((b.add m ch).map (·.name)).Nodup := by
  rw [names_add]
  refine List.nodup_append.2 ⟨hb, List.nodup_cons.2 ⟨List.not_mem_nil, List.nodup_nil⟩, fun a ha c hc => ?_⟩
  rw [List.mem_singleton.1 hc]
  exact fun e => Bool.false_ne_true (hm ▸ (has_iff b m).2 (e ▸ ha))

end Bucket

end Rio
