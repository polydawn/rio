import Rio.Model.ZipHdr
import Rio.Proofs.Bytes
/-!
# zip owner blocks: the parser never indexes out of range, and reads back what the packer wrote
-/
namespace Rio

theorem le16At_isSome {b : Bytes} {i : Nat} (h : i + 2 ≤ b.length) : (le16At b i).isSome = true := by
  simp [le16At, h]

theorem le32At_isSome {b : Bytes} {i : Nat} (h : i + 4 ≤ b.length) : (le32At b i).isSome = true := by
  simp [le32At, h]

theorem orPanic_ne_panic {x : Option Nat} {k : Nat → OwnerRes} (hx : x.isSome = true) (hk : ∀ v, k v ≠ .panic) :
    orPanic x k ≠ .panic := by
  cases x with
  | none => cases hx
  | some v => exact hk v

theorem ite_ne_panic {c : Prop} [Decidable c] {a b : OwnerRes} (ha : c → a ≠ .panic) (hb : ¬ c → b ≠ .panic) :
    (if c then a else b) ≠ .panic := by
  split
  · exact ha ‹_›
  · exact hb ‹_›

/-- every read of `parseUnix3` is behind a length check that covers it -/
theorem parseUnix3_no_panic (hdr : Bytes) : parseUnix3 hdr ≠ .panic := by
  unfold parseUnix3
  generalize (hdr.getD 1 0).toNat = u
  refine ite_ne_panic nofun fun h7 => ite_ne_panic nofun fun hu => orPanic_ne_panic ?_ fun uid => ?_
  · split
    · exact le16At_isSome (by omega)
    · exact le32At_isSome (by omega)
  · generalize (hdr.getD (2 + u) 0).toNat = g
    refine ite_ne_panic (fun _ => ite_ne_panic nofun fun hl => ite_ne_panic (fun _ => ?_) fun _ =>
      ite_ne_panic (fun _ => ?_) nofun) (by omega)
    · exact orPanic_ne_panic (le16At_isSome (by omega)) nofun
    · exact orPanic_ne_panic (le32At_isSome (by omega)) nofun

theorem parseUnix2_no_panic (hdr : Bytes) : parseUnix2 hdr ≠ .panic := by
  unfold parseUnix2
  exact ite_ne_panic nofun fun _ =>
    orPanic_ne_panic (le16At_isSome (by omega)) fun _ => orPanic_ne_panic (le16At_isSome (by omega)) nofun

theorem parseExtraFrom_no_panic (extra : Bytes) : ∀ (fuel i : Nat) (acc : List (Nat × Bytes)),
    parseExtraFrom extra fuel i acc ≠ .panic
  | 0, _, _ => by simp [parseExtraFrom]
  | fuel + 1, i, acc => by
    rw [parseExtraFrom]
    split
    · rename_i hi
      obtain ⟨a, ha⟩ := Option.isSome_iff_exists.1 (le16At_isSome (b := extra) (i := i) (by omega))
      obtain ⟨l, hl⟩ := Option.isSome_iff_exists.1 (le16At_isSome (b := extra) (i := i + 2) (by omega))
      rw [ha, hl]
      simp only
      split
      · nofun
      · exact parseExtraFrom_no_panic extra fuel _ _
    · nofun

/-- **The owner parser of a zip entry never indexes out of range**, whatever bytes the extra field holds. -/
theorem zipOwnership_never_panics (extra : Bytes) : zipOwnership extra ≠ .panic := by
  unfold zipOwnership parseExtra
  have := parseExtraFrom_no_panic extra (extra.length + 1) 0 []
  cases h : parseExtraFrom extra (extra.length + 1) 0 [] with
  | corrupt => nofun
  | panic => exact absurd h this
  | ok bs =>
    simp only
    split
    · exact parseUnix3_no_panic _
    · split
      · exact ite_ne_panic nofun fun _ => parseUnix2_no_panic _
      · nofun

theorem le32_recompose (v : Nat) (h : v < 2 ^ 32) :
    v % 256 + 256 * (v / 256 % 256) + 65536 * (v / 65536 % 256) + 16777216 * (v / 16777216 % 256) = v := by
  omega

theorem parseUnix3_written (uid gid : Nat) (hu : uid < 2 ^ 32) (hg : gid < 2 ^ 32) :
    parseUnix3 ([1, 4] ++ le32Bytes uid ++ [4] ++ le32Bytes gid) = .ok uid gid := by
  simp [parseUnix3, le32Bytes, le32At, orPanic]
  exact ⟨le32_recompose uid hu, le32_recompose gid hg⟩

/-- **Owner round trip through the zip header**: the extra field `MetadataToZipHdr` writes for any 32-bit uid and gid
    (a Unix2 block when both fit 16 bits, then a Unix3 block) is read back by `zipFileOwnership` as exactly that pair. -/
theorem zipOwnership_written (uid gid : Nat) (hu : uid < 2 ^ 32) (hg : gid < 2 ^ 32) :
    zipOwnership (ownerExtra uid gid) = .ok uid gid := by
  have h3 := parseUnix3_written uid gid hu hg
  unfold ownerExtra unix2Extra
  -- with or without the Unix2 block in front, the block loop on this layout yields the Unix3 block, and that one wins
  split
  all_goals
    simp [zipOwnership, parseExtra, parseExtraFrom, unix3Extra, le16Bytes, le32Bytes, le16At, lookupLast]
    exact h3

/-- **A unix2-only extra field (Info-ZIP `zip -X`-era archives: block 0x7855 with a four-byte data section) is read
    as its 16-bit uid and gid** — the statement `fix:` c3ebb55 made true: before it `parseUnix2Header` demanded eight
    bytes and every such archive was refused as corrupt. -/
theorem zipOwnership_unix2_only (uid gid : Nat) (hu : uid < 65536) (hg : gid < 65536) :
    zipOwnership (unix2Extra uid gid) = .ok uid gid := by
  simp [unix2Extra, hu, hg, zipOwnership, parseExtra, parseExtraFrom, le16Bytes, le16At, lookupLast, parseUnix2, orPanic]
  omega

/-- a unix2 block cut short of its four data bytes is refused, never a panic -/
theorem parseUnix2_short (hdr : Bytes) (h : hdr.length < 4) : parseUnix2 hdr = .corrupt := by
  simp [parseUnix2, h]

/-- an *empty* unix2 block is not one cut short (`parseUnix2_short`) but the central-directory form Info-ZIP 2.x writes
    (the ids are in the local header only): it says nothing about the owner, and the entry gets the default owner like
    one without any owner block -/
theorem zipOwnership_unix2_central_form : zipOwnership [0x55, 0x78, 0, 0] = .ok 1000 1000 ∧ zipOwnership [] = .ok 1000 1000 := by
  decide

end Rio
