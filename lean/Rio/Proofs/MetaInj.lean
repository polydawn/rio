import Rio.Model.Hash
import Rio.Proofs.CborInj
import Rio.Proofs.Sort
/-!
# `marshalMetadata` is uniquely decodable

`mview m` is what can be read back from `serMeta m`: the last path component, type, permission bits, uid, gid, link
target, device numbers (devices only), mtime (seconds and nanoseconds) and the xattrs in key order.  Two
serializations that agree (followed by anything) have equal views and equal remainders; the fields are peeled off
the front one by one, and the two optional ones are settled by what follows (link target) and by the field count
(xattrs).
-/
namespace Rio

structure MView where
  last : Bytes
  kind : Kind
  perms : Nat
  uid : Nat
  gid : Nat
  linkname : Bytes
  dev : Option (Int × Int)
  sec : Int
  nsec : Nat
  xattrs : List (Bytes × Bytes)
deriving DecidableEq, Repr

def mview (m : Meta) : MView :=
  ⟨m.name.last, m.kind, m.perms, m.uid, m.gid, m.linkname,
   if isDev m.kind then some (m.devmajor, m.devminor) else none, m.mtime.sec, m.mtime.nsec, sortPairs m.xattrs⟩

/-- what Go's types guarantee: lengths and counts fit an `int`, numbers fit their fixed-width types -/
structure MBounded (m : Meta) : Prop where
  last : m.name.last.length < 2 ^ 64
  perms : m.perms < 2 ^ 32
  uid : m.uid < 2 ^ 32
  gid : m.gid < 2 ^ 32
  link : m.linkname.length < 2 ^ 64
  maj : I64 m.devmajor
  min : I64 m.devminor
  sec : I64 m.mtime.sec
  nsec : m.mtime.nsec < 2 ^ 32
  xn : m.xattrs.length < 2 ^ 64
  xs : ∀ kv ∈ m.xattrs, kv.1.length < 2 ^ 64 ∧ kv.2.length < 2 ^ 64

theorem Kind.ofCode_code (k : Kind) : Kind.ofCode k.code = some k := by
  cases k <;> rfl

/-- every type byte is ASCII, so `string(m.Type)` is that one byte -/
theorem typeString_eq (k : Kind) : typeString k = [k.code] := by
  cases k <;> rfl

theorem typeString_inj (a b : Kind) (h : typeString a = typeString b) : a = b := by
  rw [typeString_eq, typeString_eq, List.cons.injEq] at h
  exact Option.some.inj (by rw [← Kind.ofCode_code a, ← Kind.ofCode_code b, h.1])

theorem typeString_len (k : Kind) : (typeString k).length < 2 ^ 64 := by
  rw [typeString_eq, List.length_singleton]
  decide

theorem i64_nat {n : Nat} (h : n < 2 ^ 32) : I64 (n : Int) := by
  unfold I64; constructor <;> omega

def serPairs (xs : List (Bytes × Bytes)) : Bytes :=
  xs.foldr (fun kv acc => cborStr kv.1 ++ cborStr kv.2 ++ acc) []

theorem serPairs_cons (a : Bytes × Bytes) (l : List (Bytes × Bytes)) :
    serPairs (a :: l) = cborStr a.1 ++ (cborStr a.2 ++ serPairs l) :=
  List.append_assoc _ _ _

theorem serPairs_inj {l1 l2 : List (Bytes × Bytes)} {r1 r2 : Bytes} (hl : l1.length = l2.length)
    (h1 : ∀ kv ∈ l1, kv.1.length < 2 ^ 64 ∧ kv.2.length < 2 ^ 64)
    (h2 : ∀ kv ∈ l2, kv.1.length < 2 ^ 64 ∧ kv.2.length < 2 ^ 64)
    (h : serPairs l1 ++ r1 = serPairs l2 ++ r2) : l1 = l2 ∧ r1 = r2 := by
  induction l1 generalizing l2 with
  | nil =>
    cases l2 with
    | nil => exact ⟨rfl, h⟩
    | cons => cases hl
  | cons a l1 ih =>
    cases l2 with
    | nil => cases hl
    | cons b l2 =>
      simp only [serPairs_cons, List.append_assoc] at h
      obtain ⟨e1, h⟩ := cborStr_inj (h1 a List.mem_cons_self).1 (h2 b List.mem_cons_self).1 h
      obtain ⟨e2, h⟩ := cborStr_inj (h1 a List.mem_cons_self).2 (h2 b List.mem_cons_self).2 h
      obtain ⟨e3, e4⟩ := ih (Nat.succ.inj hl) (fun kv hkv => h1 kv (List.mem_cons_of_mem _ hkv))
        (fun kv hkv => h2 kv (List.mem_cons_of_mem _ hkv)) h
      exact ⟨by rw [Prod.ext e1 e2, e3], e4⟩

theorem serXattrs_eq (xs : List (Bytes × Bytes)) :
    serXattrs xs = if xs.isEmpty then [] else cborStr key_x ++ (cborMap xs.length ++ serPairs (sortPairs xs)) := by
  unfold serXattrs serPairs
  split <;> simp

theorem sortPairs_perm (xs : List (Bytes × Bytes)) : (sortPairs xs).Perm xs :=
  perm_sortBy _ xs

theorem serXattrs_inj {x1 x2 : List (Bytes × Bytes)} {r1 r2 : Bytes}
    (he : x1.isEmpty = x2.isEmpty) (hn1 : x1.length < 2 ^ 64) (hn2 : x2.length < 2 ^ 64)
    (h1 : ∀ kv ∈ x1, kv.1.length < 2 ^ 64 ∧ kv.2.length < 2 ^ 64)
    (h2 : ∀ kv ∈ x2, kv.1.length < 2 ^ 64 ∧ kv.2.length < 2 ^ 64)
    (h : serXattrs x1 ++ r1 = serXattrs x2 ++ r2) : sortPairs x1 = sortPairs x2 ∧ r1 = r2 := by
  rw [serXattrs_eq, serXattrs_eq] at h
  cases hx1 : x1.isEmpty with
  | true =>
    have hx2 : x2.isEmpty = true := he ▸ hx1
    simp only [hx1, hx2, if_true, List.nil_append] at h
    exact ⟨by rw [List.isEmpty_iff.1 hx1, List.isEmpty_iff.1 hx2], h⟩
  | false =>
    have hx2 : x2.isEmpty = false := he ▸ hx1
    simp only [hx1, hx2, Bool.false_eq_true, if_false, List.append_assoc] at h
    obtain ⟨en, h⟩ := cborMap_inj hn1 hn2 (List.append_cancel_left h)
    exact serPairs_inj (by rw [(sortPairs_perm x1).length_eq, (sortPairs_perm x2).length_eq, en])
      (fun kv hkv => h1 kv ((sortPairs_perm x1).mem_iff.1 hkv)) (fun kv hkv => h2 kv ((sortPairs_perm x2).mem_iff.1 hkv)) h

theorem metaFieldCount_lt (m : Meta) : metaFieldCount m < 2 ^ 64 := by
  unfold metaFieldCount
  split <;> split <;> split <;> omega

theorem strlen_small (k : Bytes) (h : k.length ≤ 2) : k.length < 2 ^ 64 := by omega

/-- the optional link target, in front of a stream that does not go on with the same key: present on both sides or
    on neither -/
theorem optLink_inj {k l1 l2 R1 R2 : Bytes} (b1 : l1.length < 2 ^ 64) (b2 : l2.length < 2 ^ 64)
    (hR1 : ∀ s, R1 ≠ cborStr k ++ s) (hR2 : ∀ s, R2 ≠ cborStr k ++ s)
    (h : (if l1 ≠ [] then cborStr k ++ cborStr l1 else []) ++ R1 =
      (if l2 ≠ [] then cborStr k ++ cborStr l2 else []) ++ R2) : l1 = l2 ∧ R1 = R2 := by
  by_cases n1 : l1 ≠ [] <;> by_cases n2 : l2 ≠ []
  · rw [if_pos n1, if_pos n2, List.append_assoc, List.append_assoc] at h
    exact cborStr_inj b1 b2 (List.append_cancel_left h)
  · rw [if_pos n1, if_neg n2, List.append_assoc, List.nil_append] at h
    exact absurd h.symm (hR2 _)
  · rw [if_neg n1, if_pos n2, List.append_assoc, List.nil_append] at h
    exact absurd h (hR1 _)
  · rw [if_neg n1, if_neg n2] at h
    exact ⟨(Decidable.not_not.1 n1).trans (Decidable.not_not.1 n2).symm, h⟩

/-- the device numbers, present on both sides or on neither (the types already agree) -/
theorem optDev_inj {d : Prop} [Decidable d] {a1 b1 a2 b2 : Int} {k k' R1 R2 : Bytes}
    (ha1 : I64 a1) (ha2 : I64 a2) (hb1 : I64 b1) (hb2 : I64 b2)
    (h : (if d then cborStr k ++ (cborInt a1 ++ (cborStr k' ++ cborInt b1)) else []) ++ R1 =
      (if d then cborStr k ++ (cborInt a2 ++ (cborStr k' ++ cborInt b2)) else []) ++ R2) :
    (if d then some (a1, b1) else none) = (if d then some (a2, b2) else none) ∧ R1 = R2 := by
  by_cases hd : d
  · simp only [if_pos hd, List.append_assoc] at h
    obtain ⟨ea, h⟩ := cborInt_inj ha1 ha2 (List.append_cancel_left h)
    obtain ⟨eb, h⟩ := cborInt_inj hb1 hb2 (List.append_cancel_left h)
    exact ⟨by rw [ea, eb], h⟩
  · rw [if_neg hd, if_neg hd] at h ⊢
    exact ⟨rfl, h⟩

theorem serMeta_inj {m1 m2 : Meta} (b1 : MBounded m1) (b2 : MBounded m2) {r1 r2 : Bytes}
    (h : serMeta m1 ++ r1 = serMeta m2 ++ r2) : mview m1 = mview m2 ∧ r1 = r2 := by
  unfold serMeta at h
  -- `↓`: re-associate from the root down, one step per piece (bottom-up the work is quadratic in their number)
  simp only [↓ List.append_assoc] at h
  obtain ⟨hcnt, h⟩ := cborMap_inj (metaFieldCount_lt m1) (metaFieldCount_lt m2) h
  obtain ⟨e_last, h⟩ := cborStr_inj b1.last b2.last (List.append_cancel_left h)
  obtain ⟨e_t, h⟩ := cborStr_inj (typeString_len _) (typeString_len _) (List.append_cancel_left h)
  have e_kind := typeString_inj _ _ e_t
  obtain ⟨e_p, h⟩ := cborInt_inj (i64_nat b1.perms) (i64_nat b2.perms) (List.append_cancel_left h)
  obtain ⟨e_u, h⟩ := cborInt_inj (i64_nat b1.uid) (i64_nat b2.uid) (List.append_cancel_left h)
  obtain ⟨e_g, h⟩ := cborInt_inj (i64_nat b1.gid) (i64_nat b2.gid) (List.append_cancel_left h)
  rw [e_kind] at h
  -- link target (optional): the stream goes on with the key `dM` or `m`, and a string key is read back unambiguously
  have hnext : ∀ (a b : Int) (T s : Bytes),
      (if isDev m2.kind = true then cborStr key_dM ++ (cborInt a ++ (cborStr key_dm ++ cborInt b)) else []) ++
        (cborStr key_m ++ T) ≠ cborStr key_l ++ s := by
    intro a b T s e
    by_cases d : isDev m2.kind = true
    · rw [if_pos d, List.append_assoc] at e
      exact absurd (cborStr_inj (by decide) (by decide) e).1 (by decide)
    · rw [if_neg d, List.nil_append] at e
      exact absurd (cborStr_inj (by decide) (by decide) e).1 (by decide)
  obtain ⟨e_l, h⟩ := optLink_inj b1.link b2.link (hnext _ _ _) (hnext _ _ _) h
  obtain ⟨e_d, h⟩ := optDev_inj b1.maj b2.maj b1.min b2.min h
  obtain ⟨e_s, h⟩ := cborInt_inj b1.sec b2.sec (List.append_cancel_left h)
  obtain ⟨e_n, h⟩ := cborInt_inj (i64_nat b1.nsec) (i64_nat b2.nsec) (List.append_cancel_left h)
  -- xattrs: presence follows from the field count
  have he : m1.xattrs.isEmpty = m2.xattrs.isEmpty := by
    revert hcnt
    unfold metaFieldCount
    rw [e_kind, e_l]
    cases m1.xattrs.isEmpty <;> cases m2.xattrs.isEmpty <;> simp
  obtain ⟨e_x, er⟩ := serXattrs_inj he b1.xn b2.xn b1.xs b2.xs h
  refine ⟨?_, er⟩
  unfold mview
  rw [e_last, e_kind, Int.ofNat_inj.1 e_p, Int.ofNat_inj.1 e_u, Int.ofNat_inj.1 e_g, e_l, e_d, e_s, Int.ofNat_inj.1 e_n, e_x]

end Rio
