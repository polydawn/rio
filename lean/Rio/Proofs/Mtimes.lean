import Rio.Model.Mtimes
import Rio.Proofs.ListAux
/-! Two facts about `mrun` carry the mtime theorems of C10: a path that no step touches keeps its mtime (`mrun_untouched`),
    and the last step that sets a path decides it (`mrun_last_write`). -/
namespace Rio

theorem mrun_append (s : MFs) (a b : List MOp) : mrun s (a ++ b) = mrun (mrun s a) b :=
  List.foldl_append

/-- the paths whose mtime a step writes: the object and, for a creation, the directory that receives the name -/
def MOp.touches (p : MPath) : MOp → Prop
  | .create q _ _ => q = p ∨ parentOf q = some p
  | .settime q _ => q = p

theorem mexec_untouched (s : MFs) (op : MOp) (p : MPath) (h : ¬ op.touches p) : mexec s op p = s p := by
  cases op with
  | create q m now =>
    refine (upd_other (fun e => h (Or.inl e.symm))).trans ?_
    cases hq : parentOf q with
    | none => rfl
    | some r => exact upd_other (fun e => h (Or.inr (e ▸ hq)))
  | settime q m => exact upd_other (fun e => h e.symm)

theorem mrun_untouched (ops : List MOp) (s : MFs) (p : MPath) (h : ∀ op ∈ ops, ¬ op.touches p) : mrun s ops p = s p :=
  List.foldlRecOn ops mexec (motive := fun s' => s' p = s p) rfl
    (fun s' hs op hop => (mexec_untouched s' op p (h op hop)).trans hs)

/-- last write wins: the step that sets `p`, followed only by steps that do not touch `p`, decides its mtime -/
theorem mrun_last_write (s : MFs) (pre post : List MOp) (op : MOp) (p : MPath) (m : Nat)
    (hop : ∀ s', mexec s' op p = some m) (hpost : ∀ o ∈ post, ¬ o.touches p) :
    mrun s (pre ++ op :: post) p = some m := by
  rw [mrun_append]
  exact (mrun_untouched post _ p hpost).trans (hop (mrun s pre))

/-- steps made one per element of a list with distinct keys: if only the steps with `a`'s key touch `p`, `a`'s step
    decides the mtime of `p` -/
theorem mrun_map_last_write {α : Type} (f : α → MOp) (key : α → MPath) (l : List α) (hnd : (l.map key).Nodup)
    (a : α) (ha : a ∈ l) (s : MFs) (p : MPath) (m : Nat) (hop : ∀ s', mexec s' (f a) p = some m)
    (hoth : ∀ b ∈ l, key b ≠ key a → ¬ (f b).touches p) : mrun s (l.map f) p = some m := by
  obtain ⟨pre, post, rfl⟩ := List.append_of_mem ha
  rw [List.map_append, List.map_cons]
  apply mrun_last_write s _ _ _ p m hop
  intro o ho
  obtain ⟨b, hb, rfl⟩ := List.mem_map.1 ho
  exact hoth b (List.mem_append_right _ (List.mem_cons_of_mem _ hb)) (nodup_map_after hnd b hb)

theorem parentOf_ne_self (p q : MPath) (h : parentOf p = some q) : q ≠ p := by
  cases p with
  | nil => simp [parentOf] at h
  | cons a t =>
    simp only [parentOf, Option.some.injEq] at h
    intro e
    have := congrArg List.length e
    rw [← h] at this
    simp at this

theorem mexec_create_self (s : MFs) (p : MPath) (m now : Nat) : mexec s (.create p m now) p = some m :=
  upd_same _ _ _

end Rio
