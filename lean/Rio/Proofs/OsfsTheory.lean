import Rio.Model.Osfs
import Rio.Proofs.PathTheory
/-!
# The osfs resolver: the invariants (model level)

`Inside p`: `p` is the canonical value of a component list made of normal components only (no `..`): a path that
stays inside the base.  Every path the resolver builds is `Inside` (excess `..` is clamped at the base, absolute link
targets restart at the base).  The `seen` list only ever holds distinct locations of symlinks of the tree (`SeenOK`),
so its length is bounded by their number (`links_bound`).

`Safe t p`: moreover no prefix of `p` (itself included) is a symlink of the tree; `SafeButLast t p`: the same for the
proper prefixes only.  The resolver only ever extends a `Safe` path by one segment and looks at that location with
`readlinkAt`.  The proper prefixes of the location are link free, so the kernel resolves it literally; `.hostFollow`
is the answer of `readlinkAt` that would say otherwise.  The resolver continues from the location only if it is not a
link, or else with the `Safe` result of the nested resolution.
The tree is assumed *prefix closed* there (`TreeWF`: an entry's ancestors are entries too), as every real directory
tree is.  `Inside` is `Safe` for the tree without entries, so its closure properties are those of `Safe`.

`Rio/Proofs/OsfsRule.lean` walks the resolver once for both.
-/
namespace Rio

def Inside (p : RelPath) : Prop := ∃ a, (∀ c ∈ a, Normal c) ∧ p = ofComps a

theorem Inside.clean {p : RelPath} (h : Inside p) : p.Clean := by
  obtain ⟨a, ha, rfl⟩ := h
  exact ⟨a, allNormal_clean ha, rfl⟩

theorem Inside.not_up {p : RelPath} (h : Inside p) : p.goesUp = false := by
  obtain ⟨a, ha, rfl⟩ := h
  exact goesUp_ofComps_normal ha

theorem inside_of_clean_not_up {p : RelPath} (hc : p.Clean) (hu : p.goesUp = false) : Inside p := by
  obtain ⟨cs, hcl, rfl⟩ := hc
  exact ⟨cs, hcl.normal_of_head ((goesUp_ofComps_eq_false (Comps.of_clean hcl)).1 hu), rfl⟩

theorem single_of_seg {s : Bytes} (hs : Seg s) : single s = ofComps [s] := by
  have hsl : s.head? ≠ some slash := by
    intro e
    exact hs.2.2 (List.mem_of_mem_head? e)
  unfold single
  rw [mustRel_eq hsl, splitOn_nosep slash s hs.2.2, cleanComps_id hs.clean]
  rfl

/-! ## the tree at a location, and the `seen` list of distinct symlink locations -/

/-- asked of a location the resolver holds as a value: the `startingAt` of `resolveLink`, the entries of `seen` -/
def IsLinkAt (t : Tree_) (p : RelPath) : Prop := ∃ tg, t.get p.path = some (.link tg)

/-- The negation of `IsLinkAt`, but of a key of the tree and not of a path value: `Safe` asks it of the prefixes of a
    component list, which it has as rendered strings. -/
def NotLink (t : Tree_) (q : Bytes) : Prop := ∀ tg, t.get q ≠ some (.link tg)

/-- what each answer of `readlinkAt` says about the tree -/
theorem readlinkAt_spec {t : Tree_} {p : RelPath} {r : RL} (h : readlinkAt t p = r) :
    match r with
    | .hostFollow => ∃ q ∈ properPrefixes p.path, ∃ tg, t.get q = some (.link tg)
    | .link tg => t.get p.path = some (.link tg)
    | .notLink => NotLink t p.path
    | .err .notExists => (∃ q ∈ properPrefixes p.path, t.get q = none) ∨ t.get p.path = none
    | .err _ => True := by
  rw [readlinkAt] at h
  split at h
  · rename_i hany
    obtain ⟨q, hq, hm⟩ := List.any_eq_true.1 hany
    subst h
    split at hm
    · rename_i tg hg
      exact ⟨q, hq, tg, hg⟩
    · cases hm
  · split at h
    · subst h
      trivial
    · split at h
      · rename_i hnone
        obtain ⟨q, hq, hq'⟩ := List.any_eq_true.1 hnone
        subst h
        exact Or.inl ⟨q, hq, Option.isNone_iff_eq_none.1 hq'⟩
      · split at h
        · rename_i he
          subst h
          exact Or.inr he
        · rename_i tg he
          subst h
          exact he
        · rename_i n hnl he
          subst h
          intro tg hg
          rw [he] at hg
          exact hnl tg (Option.some.inj hg)

/-- what `get` answers is the root directory or an entry of the tree -/
theorem Tree_.get_cases {t : Tree_} {q : Bytes} {n : Node} (h : t.get q = some n) :
    (q = [] ∧ n = .dir) ∨ (q, n) ∈ t := by
  unfold Tree_.get at h
  split at h
  · rename_i h0
    exact Or.inl ⟨h0, (Option.some.inj h).symm⟩
  · obtain ⟨kv, hf, rfl⟩ := Option.map_eq_some_iff.1 h
    have hk : kv.1 = q := by simpa using List.find?_some hf
    exact Or.inr (hk ▸ List.mem_of_find?_eq_some hf)

theorem links_bound (t : Tree_) (ks : List Bytes) (hn : ks.Nodup)
    (h : ∀ k ∈ ks, ∃ tg, t.get k = some (.link tg)) : ks.length ≤ numLinks t := by
  unfold numLinks
  rw [← List.length_map (f := fun kv : Bytes × Node => kv.1)]
  apply List.Nodup.length_le_of_subset hn
  intro k hk
  obtain ⟨tg, hg⟩ := h k hk
  rcases Tree_.get_cases hg with ⟨_, e⟩ | hm
  · cases e
  · exact List.mem_map.2 ⟨_, List.mem_filter.2 ⟨hm, rfl⟩, rfl⟩

def SeenOK (t : Tree_) (seen : List RelPath) : Prop :=
  seen.Nodup ∧ ∀ p ∈ seen, p.Clean ∧ IsLinkAt t p

theorem seen_bound {t : Tree_} {seen : List RelPath} (h : SeenOK t seen) : seen.length ≤ numLinks t := by
  have hn : (seen.map (·.path)).Nodup :=
    List.pairwise_map.2 (h.1.imp_of_mem fun hx hy hne e => hne (clean_path_inj (h.2 _ hx).1 (h.2 _ hy).1 e))
  rw [← List.length_map (f := (·.path))]
  exact links_bound t _ hn (List.forall_mem_map.2 fun p hp => (h.2 p hp).2)

/-! ## link-free prefixes -/

def TreeWF (t : Tree_) : Prop :=
  ∀ q n, t.get q = some n → ∀ r ∈ properPrefixes q, (t.get r).isSome = true

/-- a decidable criterion: every key's ancestors are present -/
def treeWFb (t : Tree_) : Bool :=
  t.all (fun kv => (properPrefixes kv.1).all (fun r => (t.get r).isSome))

theorem treeWF_of_b {t : Tree_} (h : treeWFb t = true) : TreeWF t := by
  intro q n hq r hr
  rcases Tree_.get_cases hq with ⟨rfl, _⟩ | hm
  · cases hr
  · exact List.all_eq_true.1 (List.all_eq_true.1 h _ hm) r hr

def SafeButLast (t : Tree_) (p : RelPath) : Prop :=
  ∃ b, (∀ c ∈ b, Normal c) ∧ p = ofComps b ∧ ∀ i, i + 1 < b.length → NotLink t (joinWith slash (b.take (i + 1)))

def Safe (t : Tree_) (p : RelPath) : Prop :=
  ∃ b, (∀ c ∈ b, Normal c) ∧ p = ofComps b ∧ ∀ i, i < b.length → NotLink t (joinWith slash (b.take (i + 1)))

theorem Safe.butLast {t : Tree_} {p : RelPath} (h : Safe t p) : SafeButLast t p := by
  obtain ⟨b, hb, e, hn⟩ := h
  exact ⟨b, hb, e, fun i hi => hn i (Nat.lt_of_succ_lt hi)⟩

theorem SafeButLast.inside {t : Tree_} {p : RelPath} (h : SafeButLast t p) : Inside p := by
  obtain ⟨b, hb, e, _⟩ := h
  exact ⟨b, hb, e⟩

theorem Safe.inside {t : Tree_} {p : RelPath} (h : Safe t p) : Inside p :=
  h.butLast.inside

theorem safe_root (t : Tree_) : Safe t ⟨[], 0⟩ :=
  ⟨[], nofun, rfl, nofun⟩

theorem root_notLink (t : Tree_) : NotLink t [] := by
  intro tg h
  cases h

/-- the proper prefixes of a canonical inside path are the renderings of the proper prefixes of its component list -/
theorem properPrefixes_ofComps {b : List Bytes} (hb : ∀ c ∈ b, Normal c) :
    properPrefixes (ofComps b).path = (List.range (b.length - 1)).map (fun i => joinWith slash (b.take (i + 1))) := by
  by_cases h0 : b = []
  · subst h0
    rfl
  · unfold properPrefixes
    rw [ofComps_path h0, (Comps.of_normal hb).splitOn_joinWith h0]

/-- the location the resolver is about to look at has link-free proper prefixes: the kernel resolves it literally -/
theorem readlinkAt_not_host {t : Tree_} {p : RelPath} (h : SafeButLast t p) : readlinkAt t p ≠ .hostFollow := by
  obtain ⟨b, hb, rfl, hn⟩ := h
  intro e
  obtain ⟨q, hq, tg, hg⟩ := readlinkAt_spec e
  rw [properPrefixes_ofComps hb] at hq
  obtain ⟨i, hi, rfl⟩ := List.mem_map.1 hq
  exact hn i (Nat.add_lt_of_lt_sub (List.mem_range.1 hi)) tg hg

/-- the location is not a symlink when `readlink` says so — `EINVAL`, or `ENOENT` (here the tree must be prefix
    closed: a missing ancestor means a missing entry) -/
theorem not_link_of_readlinkAt {t : Tree_} (hwf : TreeWF t) {p : RelPath}
    (h : readlinkAt t p = .notLink ∨ readlinkAt t p = .err .notExists) : NotLink t p.path := by
  rcases h with h | h
  · exact readlinkAt_spec h
  · intro tg hl
    rcases readlinkAt_spec h with ⟨q, hq, hnone⟩ | hnone
    · have := hwf p.path _ hl q hq
      rw [hnone] at this
      cases this
    · rw [hnone] at hl
      cases hl

theorem SafeButLast.safe {t : Tree_} {p : RelPath} (h : SafeButLast t p) (hl : NotLink t p.path) : Safe t p := by
  obtain ⟨b, hb, rfl, hn⟩ := h
  refine ⟨b, hb, rfl, fun i hi => ?_⟩
  rcases Nat.lt_or_eq_of_le (show i + 1 ≤ b.length from hi) with hlast | hlast
  · exact hn i hlast
  · rw [hlast, List.take_length, ← ofComps_path (List.ne_nil_of_length_pos (Nat.zero_lt_of_lt hi))]
    exact hl

theorem SafeButLast.dir {t : Tree_} {p : RelPath} (h : SafeButLast t p) : Safe t p.dir := by
  obtain ⟨b, hb, rfl, hn⟩ := h
  rcases eq_nil_or_snoc b with rfl | ⟨init, l, rfl⟩
  · exact safe_root t
  · rw [dir_snoc (Comps.of_normal hb)]
    refine ⟨init, fun c hc => hb c (List.mem_append_left _ hc), rfl, fun i hi => ?_⟩
    have := hn i (by simpa using hi)
    rwa [List.take_append_of_le_length hi] at this

/-- one step of either loop: from a `Safe` path and a segment (not the clamped `..` at the base), the next location
    has link-free proper prefixes -/
theorem Safe.join_seg {t : Tree_} {p : RelPath} (h : Safe t p) {s : Bytes} (hs : Seg s)
    (hclamp : ¬ (s = dd ∧ p = ⟨[], 0⟩)) : SafeButLast t (p.join (single s)) := by
  have hdir : Safe t p.dir := h.butLast.dir
  obtain ⟨a, ha, rfl, hn⟩ := h
  rw [single_of_seg hs, join_ofComps (allNormal_clean ha) hs.clean]
  rcases hs.cases with rfl | hs'
  · -- `..`, not at the base: the join is `p.dir`
    rcases eq_nil_or_snoc a with rfl | ⟨init, l, rfl⟩
    · exact absurd ⟨rfl, rfl⟩ hclamp
    · rw [cleanComps_snoc_dd ha, ← dir_snoc (Comps.of_normal ha)]
      exact hdir.butLast
  · have hall := normal_snoc ha hs'
    rw [cleanComps_id (allNormal_clean hall)]
    refine ⟨a ++ [s], hall, rfl, fun i hi => ?_⟩
    have hi' : i < a.length := by simpa using hi
    rw [List.take_append_of_le_length hi']
    exact hn i hi'

theorem Inside.safe_nil {p : RelPath} (h : Inside p) : Safe [] p := by
  obtain ⟨a, ha, e⟩ := h
  refine ⟨a, ha, e, fun i _ tg hg => ?_⟩
  unfold Tree_.get at hg
  split at hg <;> cases hg

end Rio
