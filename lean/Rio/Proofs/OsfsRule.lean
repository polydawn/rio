import Rio.Proofs.OsfsTheory
/-!
# The osfs resolver, walked once

`resolveSegsWith`, `resolveLink`, `realpathSegs` and `realpath` are walked once, for any predicates that the path
operations of the walk preserve (`PathInv`) and any property of the fuel and the `seen` list that pushing a location
preserves (`SeenInv`); the conclusion says which outcomes a call can have (`Out`).  Two instances follow:
`Inside` with the fuel count `Fuel` (a successful result stays inside the base and the fuel never runs out), and
`Safe` / `SafeButLast` with no state at all (no location with a link among its proper prefixes is ever looked at).
-/
namespace Rio

/-- What the walk over a tree `t` maintains.  `Walked` holds of the path it continues from; a step joins one segment
    to it (`join`; `..` at the base the resolver skips instead) and looks at that `Next` location: if it is not a link,
    or does not exist, the walk continues from there (`here`); if it is a link (`Link`), the target is walked from the
    base or from the link's directory (`root`, `dir`), and the walk continues from the `Walked` result.  `host` says
    whether looking at a `Next` location may leave the model (`look`); `realpath` may return a `Next` location unlooked
    at (`weaken`). -/
structure PathInv (t : Tree_) (Walked Next Link : RelPath → Prop) (host : Prop) : Prop where
  root : Walked ⟨[], 0⟩
  weaken : ∀ {p}, Walked p → Next p
  join : ∀ {p s}, Walked p → Seg s → ¬ (s = dd ∧ p = ⟨[], 0⟩) → Next (p.join (single s))
  here : ∀ {p}, Next p → (readlinkAt t p = .notLink ∨ readlinkAt t p = .err .notExists) → Walked p
  link : ∀ {p tg}, Next p → readlinkAt t p = .link tg → Link p
  dir : ∀ {p}, Link p → Walked p.dir
  look : ∀ {p}, Next p → readlinkAt t p = .hostFollow → host

/-- What a call keeps of the fuel `n` and the `seen` list: pushing a new link location costs one unit of fuel, and more
    fuel never hurts.  `fuel` is the proposition that running out is an allowed outcome (`Out`): a state with no fuel
    left has to imply it. -/
structure SeenInv (Link : RelPath → Prop) (fuel : Prop) (S : Nat → List RelPath → Prop) : Prop where
  zero : ∀ {seen}, S 0 seen → fuel
  push : ∀ {n p seen}, Link p → p ∉ seen → S (n + 1) seen → S n (p :: seen)
  mono : ∀ {n seen}, S n seen → S (n + 1) seen

def Out (P : RelPath → Prop) (host fuel : Prop) : Resolved → Prop
  | .ok p => P p
  | .err _ _ => True
  | .hostFollow => host
  | .outOfFuel => fuel

theorem Out.mono {P Q : RelPath → Prop} {host fuel : Prop} (h : ∀ p, P p → Q p) :
    ∀ {r : Resolved}, Out P host fuel r → Out Q host fuel r
  | .ok p, hr => h p hr
  | .err _ _, hr => hr
  | .hostFollow, hr => hr
  | .outOfFuel, hr => hr

theorem Out.ne_fuel {P : RelPath → Prop} {host : Prop} {r : Resolved} (h : Out P host False r) : r ≠ .outOfFuel := by
  rintro rfl
  exact h

theorem Out.ne_host {P : RelPath → Prop} {fuel : Prop} {r : Resolved} (h : Out P False fuel r) : r ≠ .hostFollow := by
  rintro rfl
  exact h

theorem Out.of_ok {P : RelPath → Prop} {host fuel : Prop} {r : Resolved} (h : Out P host fuel r) {p : RelPath}
    (e : r = .ok p) : P p := by
  subst e
  exact h

abbrev OutSeen (P : RelPath → Prop) (host fuel : Prop) (S : List RelPath → Prop) (x : Resolved × List RelPath) : Prop :=
  Out P host fuel x.1 ∧ S x.2

section Rule
variable {t : Tree_} {Walked Next Link : RelPath → Prop} {host fuel : Prop} (I : PathInv t Walked Next Link host)
include I

theorem segs_out {S : List RelPath → Prop} {rec : Bytes → RelPath → List RelPath → Resolved × List RelPath}
    (sa : RelPath) (hrec : ∀ tg p seen, Link p → S seen → OutSeen Walked host fuel S (rec tg p seen))
    {segs : List Bytes} {path : RelPath} {seen : List RelPath} (hsegs : ∀ s ∈ segs, slash ∉ s) (hpath : Walked path)
    (hseen : S seen) : OutSeen Walked host fuel S (resolveSegsWith t rec sa segs path seen) := by
  induction segs generalizing path seen with
  | nil => exact ⟨hpath, hseen⟩
  | cons s rest ih =>
    obtain ⟨hs0, hrest⟩ := List.forall_mem_cons.1 hsegs
    rw [resolveSegsWith]
    by_cases h1 : s = [] ∨ s = [dot]
    · rw [if_pos h1]
      exact ih hrest hpath hseen
    · rw [if_neg h1]
      by_cases h2 : s = [dot, dot] ∧ path = ⟨[], 0⟩
      · -- `..` at the base is clamped: the segment is dropped
        rw [if_pos h2]
        exact ih hrest hpath hseen
      · rw [if_neg h2]
        have hq : Next (path.join (single s)) :=
          I.join hpath ⟨fun e => h1 (Or.inl e), fun e => h1 (Or.inr e), hs0⟩ h2
        by_cases h3 : path.join (single s) = sa
        · -- the link resolves through itself: an error
          rw [if_pos h3]
          exact ⟨trivial, hseen⟩
        · rw [if_neg h3]
          cases hrl : readlinkAt t (path.join (single s)) with
          | hostFollow => exact ⟨I.look hq hrl, hseen⟩
          | err c =>
            simp only
            split
            · -- a missing last segment is no error: the location itself is the result, so it has to be `Walked`
              rename_i hc
              exact ⟨I.here hq (Or.inr (by rw [hrl, hc.2])), hseen⟩
            · exact ⟨trivial, hseen⟩
          | notLink => exact ih hrest (I.here hq (Or.inl hrl)) hseen
          | link tg =>
            -- the loop goes on from the result of the nested call, with the `seen` list it returns
            have hr := hrec tg _ seen (I.link hq hrl) hseen
            simp only
            cases e : rec tg (path.join (single s)) seen with
            | mk r seen' =>
              rw [e] at hr
              cases r with
              | ok p' => exact ih hrest hr.1 hr.2
              | err c a => exact ⟨trivial, hr.2⟩
              | hostFollow => exact hr
              | outOfFuel => exact hr

variable {S : Nat → List RelPath → Prop} (J : SeenInv Link fuel S)
include J

theorem resolveLink_out : ∀ (n : Nat) (tg : Bytes) (sa : RelPath) (seen : List RelPath), Link sa → S n seen →
    OutSeen Walked host fuel (S n) (resolveLink t n tg sa seen)
  | 0, _, _, _, _, hs => ⟨J.zero hs, hs⟩
  | n + 1, tg, sa, seen, hk, hs => by
    rw [resolveLink]
    split
    · exact ⟨trivial, hs⟩
    · rename_i hc
      refine And.imp_right J.mono (segs_out I (S := S n) sa (resolveLink_out n) (hsegs := fun s hm => ?_)
        (hpath := ?_) (hseen := J.push hk (by simpa using hc) hs))
      · -- the segments are the pieces of the target, without the empty first one if it is absolute
        split at hm
        · exact splitOn_mem_nosep slash tg s (List.mem_of_mem_drop hm)
        · exact splitOn_mem_nosep slash tg s hm
      · -- an absolute target is walked from the base, a relative one from the directory of the link
        split
        · exact I.root
        · exact I.dir hk

theorem realpathSegs_out (n : Nat) (hs : S n []) (rl : Bool) :
    ∀ (segs : List Bytes) (resolved : RelPath), (∀ s ∈ segs, Normal s) → Walked resolved →
      Out Next host fuel (realpathSegs t n rl segs resolved)
  | [], resolved, _, hp => I.weaken hp
  | s :: rest, resolved, hsegs, hp => by
    obtain ⟨hn, hrest⟩ := List.forall_mem_cons.1 hsegs
    have hq : Next (resolved.join (single s)) := I.join hp hn.seg (fun e => hn.2.2.1 e.1)
    rw [realpathSegs]
    split
    · -- the last segment with `resolveLast = false`: returned unlooked at
      exact hq
    · split
      · rename_i hrl
        exact I.look hq hrl
      · exact trivial
      · rename_i hrl
        exact realpathSegs_out n hs rl rest _ hrest (I.here hq (Or.inl hrl))
      · rename_i tg hrl
        have hr := (resolveLink_out I J n tg _ [] (I.link hq hrl) hs).1
        split
        · rename_i p' e
          rw [e] at hr
          exact realpathSegs_out n hs rl rest p' hrest hr
        · exact trivial
        · exact hr.mono fun _ => I.weaken

theorem realpath_out (hs : S (numLinks t + 2) []) (path : RelPath) (rl : Bool) (hc : path.Clean) :
    Out Next host fuel (realpath t path rl) := by
  unfold realpath
  cases hu : path.goesUp with
  | true => exact trivial
  | false =>
    obtain ⟨a, ha, rfl⟩ := inside_of_clean_not_up hc hu
    by_cases ha0 : a = []
    · subst ha0
      exact I.weaken I.root
    · rw [if_neg (ofComps_path_ne_nil (Comps.of_normal ha) ha0), ofComps_path ha0,
        (Comps.of_normal ha).splitOn_joinWith ha0]
      exact realpathSegs_out I J _ hs rl a ⟨[], 0⟩ ha I.root

end Rule

/-! ## confinement and termination: the `seen` list holds distinct link locations, one unit of fuel for each -/

theorem insideInv (t : Tree_) : PathInv t Inside Inside (fun p => Inside p ∧ IsLinkAt t p) True where
  root := (safe_root []).inside
  weaken := id
  join := fun h hs hc => (h.safe_nil.join_seg hs hc).inside
  here := fun h _ => h
  link := fun h hrl => ⟨h, _, readlinkAt_spec hrl⟩
  dir := fun h => h.1.safe_nil.butLast.dir.inside
  look := fun _ _ => trivial

/-- fuel left for the links not yet on the `seen` list -/
def Fuel (t : Tree_) (n : Nat) (seen : List RelPath) : Prop := SeenOK t seen ∧ numLinks t + 1 ≤ n + seen.length

theorem fuelInv (t : Tree_) : SeenInv (fun p => Inside p ∧ IsLinkAt t p) False (Fuel t) where
  zero := fun h => by
    have := seen_bound h.1
    have := h.2
    omega
  push := fun hk hn h =>
    ⟨⟨List.nodup_cons.2 ⟨hn, h.1.1⟩, List.forall_mem_cons.2 ⟨⟨hk.1.clean, hk.2⟩, h.1.2⟩⟩,
      Nat.le_trans h.2 (Nat.le_of_eq (Nat.add_right_comm _ 1 _))⟩
  mono := fun h => ⟨h.1, Nat.le_trans h.2 (Nat.add_le_add_right (Nat.le_succ _) _)⟩

/-- Go's `resolveLink` has no counter: it recurses on the `seen` map alone (`fs/osfs/osfs.go`), and the fuel is the
    model's way to write that recursion down.  `numLinks t + 1` would do; the `+ 2` that `realpath` starts with
    leaves one unit over. -/
theorem Fuel.start (t : Tree_) : Fuel t (numLinks t + 2) [] :=
  ⟨⟨List.nodup_nil, nofun⟩, Nat.le_succ _⟩

theorem realpath_inside (t : Tree_) (path : RelPath) (rl : Bool) (hc : path.Clean) :
    Out Inside (host := True) (fuel := False) (realpath t path rl) :=
  realpath_out (insideInv t) (fuelInv t) (Fuel.start t) path rl hc

/-! ## no link is left to the kernel: nothing to keep of fuel or `seen` -/

theorem safeInv {t : Tree_} (hwf : TreeWF t) : PathInv t (Safe t) (SafeButLast t) (SafeButLast t) False where
  root := safe_root t
  weaken := Safe.butLast
  join := fun h hs hc => h.join_seg hs hc
  here := fun h hrl => h.safe (not_link_of_readlinkAt hwf hrl)
  link := fun h _ => h
  dir := SafeButLast.dir
  look := fun h => readlinkAt_not_host h

theorem anySeen (Link : RelPath → Prop) : SeenInv Link True (fun _ _ => True) :=
  ⟨fun _ => trivial, fun _ _ _ => trivial, fun _ => trivial⟩

theorem realpath_nolinks {t : Tree_} (hwf : TreeWF t) (path : RelPath) (rl : Bool) (hc : path.Clean) :
    Out (SafeButLast t) (host := False) (fuel := True) (realpath t path rl) :=
  realpath_out (safeInv hwf) (anySeen _) trivial path rl hc

end Rio
