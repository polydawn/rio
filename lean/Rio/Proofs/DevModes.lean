import Rio.Model.DevModes
/-! `devSplit ∘ devJoin = id` on 12-bit majors and 20-bit minors (what `mknod` then `lstat` round-trips). -/
namespace Rio

/-- a mask of `n` ones at bit `k` selects the `n`-bit field at bit `k`, left in place.  The mask is an argument of its
    own with an equation, so that the source's literal (`0xfff00`) can be given and the equation closed by `rfl`. -/
theorem and_mask (x m n k : Nat) (hm : m = (2 ^ n - 1) <<< k) : x &&& m = ((x >>> k) % 2 ^ n) <<< k := by
  apply Nat.eq_of_testBit_eq
  intro i
  simp only [hm, Nat.testBit_and, Nat.testBit_shiftLeft, Nat.testBit_two_pow_sub_one,
    Nat.testBit_mod_two_pow, Nat.testBit_shiftRight]
  by_cases h : k ≤ i
  · rw [Nat.add_sub_cancel' h, Bool.and_left_comm, Bool.and_comm (x.testBit i)]
  · rw [decide_eq_false h, Bool.false_and, Bool.false_and, Bool.and_false]

theorem and_low (x m n : Nat) (hm : m = 2 ^ n - 1) : x &&& m = x % 2 ^ n :=
  hm ▸ Nat.and_two_pow_sub_one_eq_mod x n

/-- `hi` above a `k`-bit field `lo` -/
theorem shiftLeft_or_eq_mul_add (hi lo k : Nat) (hl : lo < 2 ^ k) : (hi <<< k) ||| lo = hi * 2 ^ k + lo := by
  rw [← Nat.shiftLeft_add_eq_or_of_lt hl, Nat.shiftLeft_eq]

theorem mul_add_shiftRight (hi lo k : Nat) (hl : lo < 2 ^ k) : (hi * 2 ^ k + lo) >>> k = hi := by
  rw [Nat.shiftRight_eq_div_pow, Nat.add_comm, Nat.add_mul_div_right _ _ (Nat.two_pow_pos k),
    Nat.div_eq_of_lt hl, Nat.zero_add]

theorem mul_add_lt_two_pow (hi lo k n : Nat) (hh : hi < 2 ^ n) (hl : lo < 2 ^ k) : hi * 2 ^ k + lo < 2 ^ (n + k) := by
  rw [Nat.pow_add]
  apply Nat.lt_mul_of_div_lt _ (Nat.two_pow_pos k)
  rw [← Nat.shiftRight_eq_div_pow, mul_add_shiftRight hi lo k hl]
  exact hh

/-- **Device numbers survive `mknod` + `lstat`**: splitting the joined number gives back major and minor.
With `b = minor >>> 8` and `a = minor % 2^8`, `devJoin major minor = (b * 2^12 + major) * 2^8 + a`. -/
theorem dev_roundtrip (major minor : Nat) (h1 : major < 4096) (h2 : minor < 2 ^ 20) :
    devSplit (devJoin major minor) = (major, minor) := by
  have ha := Nat.mod_lt minor (Nat.two_pow_pos 8)
  have hm : major < 2 ^ (12 : Nat) := h1 -- `(12 : Nat)`: a bare `2 ^ 12` costs twice as much to elaborate
  have hb : minor >>> 8 < 2 ^ (12 : Nat) := by
    rw [Nat.shiftRight_eq_div_pow]
    exact Nat.div_lt_of_lt_mul h2
  -- join: masks to fields, `(b <<< 8) <<< 12 ||| major <<< 8 ||| a`, then `((b <<< 12 ||| major) <<< 8) ||| a`
  simp only [devJoin, and_mask _ 0xfff00 12 8 rfl, and_low _ 0xfff 12 rfl, and_low _ 0xff 8 rfl,
    Nat.mod_eq_of_lt hb, Nat.mod_eq_of_lt hm]
  rw [← Nat.shiftLeft_add, Nat.add_comm 8 12, Nat.shiftLeft_add, ← Nat.shiftLeft_or_distrib]
  simp only [shiftLeft_or_eq_mul_add _ _ 12 hm, shiftLeft_or_eq_mul_add _ _ 8 ha,
    Nat.mod_eq_of_lt (mul_add_lt_two_pow _ _ 8 24 (mul_add_lt_two_pow _ _ 12 12 hb hm) ha)]
  -- split `J = (b * 2^12 + major) * 2^8 + a`: `((J >>> 8) % 2^12, J % 2^8 ||| ((J >>> 8 >>> 12) % 2^12) <<< 8)`
  simp only [devSplit, and_mask _ 0xfff00 12 8 rfl, and_low _ 0xfff 12 rfl, and_low _ 0xff 8 rfl]
  rw [← Nat.shiftRight_add, Nat.add_comm 12 8, Nat.shiftRight_add]
  simp only [mul_add_shiftRight _ _ 8 ha, mul_add_shiftRight _ _ 12 hm, Nat.mul_add_mod_of_lt ha,
    Nat.mul_add_mod_of_lt hm, Nat.mod_eq_of_lt hb]
  rw [Nat.or_comm, shiftLeft_or_eq_mul_add _ _ 8 ha, Nat.shiftRight_eq_div_pow, Nat.div_add_mod']

end Rio
