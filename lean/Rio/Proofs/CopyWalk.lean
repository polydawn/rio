import Rio.Model.CopyWalk
import Rio.Proofs.Mtimes
/-!
# The copy placer's walk: the mtimes of the tree, and a frame

`Under p a r` says that `r` is the object `a` of directory `p` or lies below it.  The frame (`walkOps_frame`: a step of
the walk of node `n` found in `p` touches `p` itself or something `Under p n.name`) is what lets the mtime proof
(`walk_mtimes`) pass over the later siblings of a node: with unique names per directory their subtrees share no path with
its own (`under_disjoint`), and `p`, which every sibling's creation touches, is not one of its nodes (`under_ne_base`).
Within a directory's own walk the `settime` of `postVisit` comes last, after everything that disturbs it.
-/
namespace Rio

/-- `r` lies in (or is) the object called `a` of directory `p` -/
def Under (p : MPath) (a : Nat) (r : MPath) : Prop := ∃ rest, r = p ++ a :: rest

theorem under_self (p : MPath) (a : Nat) : Under p a (p ++ [a]) := ⟨[], rfl⟩

theorem under_ne_base {p : MPath} {a : Nat} {r : MPath} (h : Under p a r) : r ≠ p := by
  obtain ⟨rest, rfl⟩ := h
  intro e
  have := congrArg List.length e
  simp at this

theorem under_disjoint {p : MPath} {a b : Nat} {r : MPath} (h1 : Under p a r) (h2 : Under p b r) : a = b := by
  obtain ⟨r1, rfl⟩ := h1
  obtain ⟨r2, h⟩ := h2
  have := List.append_cancel_left h
  injection this

theorem under_of_snoc {p : MPath} {a b : Nat} {r : MPath} (h : Under (p ++ [a]) b r) : Under p a r := by
  obtain ⟨rest, rfl⟩ := h
  exact ⟨b :: rest, by simp⟩

theorem parentOf_snoc (p : MPath) (a : Nat) : parentOf (p ++ [a]) = some p := by
  cases h : p ++ [a] with
  | nil => simp at h
  | cons x t => simp [parentOf, ← h]

theorem create_touches {p : MPath} {a m t : Nat} {r : MPath} (h : (MOp.create (p ++ [a]) m t).touches r) :
    r = p ∨ Under p a r := by
  simp only [MOp.touches, parentOf_snoc, Option.some.injEq] at h
  rcases h with h | h
  · exact Or.inr (h ▸ under_self p a)
  · exact Or.inl h.symm

mutual
  /-- frame of a subtree walk: it writes the receiving directory's mtime and paths inside the subtree, nothing else -/
  theorem walkOps_frame (now : MPath → Nat) (post : Bool) : ∀ (n : MNode) (p : MPath) (op : MOp), op ∈ walkOps now post n p →
      ∀ r, op.touches r → r = p ∨ Under p n.name r
    | .file n m => by
      intro p op hop r ht
      rw [List.mem_singleton.1 hop] at ht
      exact create_touches ht
    | .dir n m ks => by
      intro p op hop r ht
      rcases List.mem_cons.1 hop with rfl | hop
      · exact create_touches ht
      · right
        rcases List.mem_append.1 hop with hop | hop
        · rcases walkKids_frame now post ks (p ++ [n]) op hop r ht with h | ⟨k, _, h⟩
          · exact h ▸ under_self p n
          · exact under_of_snoc h
        · cases post with
          | false => exact absurd hop List.not_mem_nil
          | true =>
            rw [List.mem_singleton.1 hop] at ht
            exact ht ▸ under_self p n
  theorem walkKids_frame (now : MPath → Nat) (post : Bool) : ∀ (ks : List MNode) (p : MPath) (op : MOp), op ∈ walkKids now post ks p →
      ∀ r, op.touches r → r = p ∨ ∃ k ∈ ks, Under p k.name r
    | [] => by
      intro p op hop
      exact absurd hop List.not_mem_nil
    | k :: ks => by
      intro p op hop r ht
      rcases List.mem_append.1 hop with hop | hop
      · rcases walkOps_frame now post k p op hop r ht with h | h
        · exact Or.inl h
        · exact Or.inr ⟨k, List.mem_cons_self, h⟩
      · rcases walkKids_frame now post ks p op hop r ht with h | ⟨k', hk', h⟩
        · exact Or.inl h
        · exact Or.inr ⟨k', List.mem_cons_of_mem _ hk', h⟩
end

mutual
  theorem nodesOf_under : ∀ (n : MNode) (p : MPath) (x : MPath × Nat), x ∈ nodesOf n p → Under p n.name x.1
    | .file n m => by
      intro p x hx
      rw [List.mem_singleton.1 hx]
      exact under_self p n
    | .dir n m ks => by
      intro p x hx
      rcases List.mem_cons.1 hx with rfl | hx
      · exact under_self p n
      · obtain ⟨k, _, h⟩ := kidsNodes_under ks (p ++ [n]) x hx
        exact under_of_snoc h
  theorem kidsNodes_under : ∀ (ks : List MNode) (p : MPath) (x : MPath × Nat), x ∈ kidsNodes ks p → ∃ k ∈ ks, Under p k.name x.1
    | [] => by
      intro p x hx
      exact absurd hx List.not_mem_nil
    | k :: ks => by
      intro p x hx
      rcases List.mem_append.1 hx with hx | hx
      · exact ⟨k, List.mem_cons_self, nodesOf_under k p x hx⟩
      · obtain ⟨k', hk', h⟩ := kidsNodes_under ks p x hx
        exact ⟨k', List.mem_cons_of_mem _ hk', h⟩
end

mutual
  /-- **the walk with `postVisit` gives every node of the tree its source mtime** -/
  theorem walk_mtimes (now : MPath → Nat) : ∀ (n : MNode) (p : MPath), n.wf → ∀ (s : MFs) (x : MPath × Nat), x ∈ nodesOf n p →
      mrun s (walkOps now true n p) x.1 = some x.2
    | .file n m => by
      intro p _ s x hx
      rw [List.mem_singleton.1 hx]
      exact mexec_create_self s _ _ _
    | .dir n m ks => by
      intro p hwf s x hx
      show mrun s ((.create (p ++ [n]) m (now (p ++ [n])) :: walkKids now true ks (p ++ [n])) ++ [.settime (p ++ [n]) m]) x.1 = some x.2
      rcases List.mem_cons.1 hx with rfl | hx
      · -- the directory itself: its `settime` is the last step
        exact mrun_last_write s _ [] _ _ m (fun s' => upd_same s' _ _) (fun o ho => absurd ho List.not_mem_nil)
      · -- a node below: the trailing `settime` names the directory, not the node
        obtain ⟨k, _, hu⟩ := kidsNodes_under ks (p ++ [n]) x hx
        rw [mrun_append, mrun_untouched [_]]
        · exact walkKids_mtimes now ks (p ++ [n]) hwf (mexec s _) x hx
        · intro op hop ht
          rw [List.mem_singleton.1 hop] at ht
          exact under_ne_base hu ht.symm
  theorem walkKids_mtimes (now : MPath → Nat) : ∀ (ks : List MNode) (p : MPath), kidsWf ks → ∀ (s : MFs) (x : MPath × Nat),
      x ∈ kidsNodes ks p → mrun s (walkKids now true ks p) x.1 = some x.2
    | [] => by
      intro p _ s x hx
      exact absurd hx List.not_mem_nil
    | k :: ks => by
      intro p hwf s x hx
      obtain ⟨hk, hne, hks⟩ := hwf
      show mrun s (walkOps now true k p ++ walkKids now true ks p) x.1 = some x.2
      rw [mrun_append]
      rcases List.mem_append.1 hx with hx | hx
      · -- the node is in the first subtree: later siblings write only `p` and their own subtrees
        have hu := nodesOf_under k p x hx
        rw [mrun_untouched]
        · exact walk_mtimes now k p hk s x hx
        · intro op hop ht
          rcases walkKids_frame now true ks p op hop x.1 ht with h | ⟨k', hk', h⟩
          · exact under_ne_base hu h
          · exact hne k' hk' (under_disjoint h hu)
      · exact walkKids_mtimes now ks p hks _ x hx
end

end Rio
