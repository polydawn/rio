import Rio.Proofs.ScanOfPack
import Rio.Proofs.FilesetTree
/-!
# The pre-order listing of a real fileset is a good listing

For a fileset given by component names (`LTree`, well formed: `LWF`) whose attributes lie in the tar format's domain,
the records in pre-order (a directory before what it contains — the order `fs.Walk` delivers) satisfy `ListingOK`: the
hypothesis of `C02_scan_of_pack`.  So for every such fileset: `scan(pack(F)) = pack(F) = specId(F)`.
-/
namespace Rio

/-- parents first, relative to the directories already seen -/
def PF : List RelPath → List FsEntry → Prop
  | _, [] => True
  | D, e :: es => (∀ p ∈ e.m.name.splitParent, p ∈ D) ∧ PF (if e.m.kind = .dir then e.m.name :: D else D) es

theorem PF_mono : ∀ (es : List FsEntry) (D D' : List RelPath), (∀ p ∈ D, p ∈ D') → PF D es → PF D' es := by
  intro es
  induction es with
  | nil => exact fun _ _ _ _ => trivial
  | cons e es ih =>
    intro D D' hs h
    refine ⟨fun p hp => hs p (h.1 p hp), ih _ _ (fun p hp => ?_) h.2⟩
    split at hp
    · rw [if_pos ‹_›]
      exact (List.mem_cons.1 hp).elim (· ▸ List.mem_cons_self) fun h => List.mem_cons_of_mem _ (hs p h)
    · rw [if_neg ‹_›]
      exact hs p hp

theorem PF_append {a b : List FsEntry} {D : List RelPath} (ha : PF D a) (hb : PF D b) : PF D (a ++ b) := by
  induction a generalizing D with
  | nil => exact hb
  | cons e a ih =>
    refine ⟨ha.1, ih ha.2 (PF_mono b D _ (fun p hp => ?_) hb)⟩
    split
    · exact List.mem_cons_of_mem _ hp
    · exact hp

/-- a list-level route to `ListingOK`: good entries, parents first, and two conditions on `B ++ es.map recOf`, the
    bucket as it will be once the whole listing is filed (the same at every step of the induction): its names are
    distinct, and none is the twin key of an entry (no path listed both as a directory and as something else) -/
theorem listing_of_list (es : List FsEntry) (B : Bucket) (D : List RelPath) (hg : ∀ e ∈ es, GoodEntry e)
    (hn : ((B ++ es.map recOf).map (·.name)).Nodup)
    (ht : ∀ e ∈ es, recordName (twinOf e.m) ∉ (B ++ es.map recOf).map (·.name)) (hp : PF D es) : ListingOK es B D := by
  induction es generalizing B D with
  | nil => trivial
  | cons e es ih =>
    have hB : (B ++ [recOf e]) ++ es.map recOf = B ++ (e :: es).map recOf := List.append_assoc ..
    refine ⟨hg e List.mem_cons_self, Bool.eq_false_iff.2 fun hh => ?_, Bool.eq_false_iff.2 fun hh => ?_,
      fun p hp' => List.contains_iff_mem.2 (hp.1 p hp'),
      ih _ _ (fun x hx => hg x (List.mem_cons_of_mem _ hx)) (hB ▸ hn)
        (fun x hx => hB ▸ ht x (List.mem_cons_of_mem _ hx)) hp.2⟩
    · rw [List.map_append, List.nodup_append] at hn
      exact hn.2.2 _ ((Bucket.has_iff B e.m).1 hh) _ List.mem_cons_self rfl
    · exact ht e List.mem_cons_self (List.map_append ▸ List.mem_append_left _ ((Bucket.has_iff B _).1 hh))

def entOf (r : Record) : FsEntry := ⟨r.m, r.chash⟩

/-- attributes within the tar format's domain, whole-second mtimes, content hashes on files only -/
def AttrsOK (m : Meta) (ch : Bytes) : Prop :=
  m.perms < 4096 ∧ m.uid < 4294967296 ∧ m.gid < 4294967296 ∧
  (m.kind ≠ .socket ∧ m.kind ≠ .invalid ∧ m.kind ≠ .hardlink) ∧ m.mtime.nsec = 0 ∧ (m.kind ≠ .file → ch = [])

mutual
def LGood : LTree → Prop
  | .node _ m ch kids => AttrsOK m ch ∧ LGoodF kids
def LGoodF : LForest → Prop
  | .nil => True
  | .cons t f => LGood t ∧ LGoodF f
end

theorem good_record {cs : List Bytes} (hcs : ∀ c ∈ cs, Normal c) (m : Meta) (ch : Bytes) (ha : AttrsOK m ch) :
    GoodEntry (entOf (mkRecord { m with name := ofComps cs } ch)) ∧
    recOf (entOf (mkRecord { m with name := ofComps cs } ch)) = mkRecord { m with name := ofComps cs } ch := by
  obtain ⟨hperms, huid, hgid, hkind, hsecs, hhash⟩ := ha
  refine ⟨{ clean := ⟨cs, allNormal_clean hcs, rfl⟩, notUp := notUp_ofComps_normal hcs, perms := hperms,
            uid := huid, gid := hgid, kind := hkind, secs := hsecs }, ?_⟩
  simp only [recOf, entOf, mkRecord, recHash]
  by_cases hf : m.kind = .file
  · simp [hf]
  · simp [hf, hhash hf]

/-- every record of a well-formed forest with attributes in the format's domain is a good entry, and the record the pack
    files for it is that record.  (One recursion over the forest instead of a mutual pair: its first node, what is
    below that, the later siblings.) -/
theorem flattenF_good : ∀ (f : LForest) (pre : List Bytes), (∀ x ∈ pre, Normal x) → LWFF f → LGoodF f →
    ∀ r ∈ flattenF (toForest pre f), GoodEntry (entOf r) ∧ recOf (entOf r) = r
  | .nil => fun _ _ _ _ _ h => nomatch h
  | .cons (.node c m ch kids) f => by
    intro pre hpre hwf hg r hr
    obtain ⟨⟨hc, _, hkids⟩, hf, _⟩ := hwf
    obtain ⟨⟨ha, hgk⟩, hgf⟩ := hg
    have hall := normal_snoc hpre hc
    rcases List.mem_append.1 hr with hr | hr
    · rcases List.mem_cons.1 hr with rfl | hr
      · exact good_record hall m ch ha
      · exact flattenF_good kids (pre ++ [c]) hall hkids hgk r hr
    · exact flattenF_good f pre hpre hf hgf r hr

mutual
/-- the pre-order listing of what `t` stands for below the component path `pre` has parents first, if every prefix of
    `pre` (`[]`, the fileset's root, and `pre` itself included) is among the directories `D` listed before it -/
theorem pfT : ∀ (t : LTree) (pre : List Bytes) (D : List RelPath), (∀ x ∈ pre, Normal x) →
    (∀ k, k ≤ pre.length → ofComps (pre.take k) ∈ D) → LWF t → PF D ((flatten (toTree pre t)).map entOf)
  | .node c m ch kids => by
    intro pre D hpre hD hwf
    have hall := normal_snoc hpre hwf.1
    refine And.intro (fun p hp => ?_) ?_
    · -- the proper ancestors of `pre ++ [c]` are the prefixes of `pre`
      rw [show (entOf _).m.name = ofComps (pre ++ [c]) from rfl, splitParent_ofComps (Comps.of_normal hall),
        List.length_append, List.length_singleton] at hp
      obtain ⟨k, hk, rfl⟩ := List.mem_map.1 hp
      have hk' := Nat.lt_succ_iff.1 (List.mem_range.1 hk)
      rw [List.take_append_of_le_length hk']
      exact hD k hk'
    · show PF (if m.kind = Kind.dir then ofComps (pre ++ [c]) :: D else D) _
      by_cases hd : m.kind = .dir
      · rw [if_pos hd]
        refine pfF kids (pre ++ [c]) _ hall (fun k _ => ?_) hwf.2.2
        by_cases hk' : k ≤ pre.length
        · rw [List.take_append_of_le_length hk']
          exact List.mem_cons_of_mem _ (hD k hk')
        · rw [List.take_of_length_le (by rw [List.length_append]; exact Nat.lt_of_not_le hk')]
          exact List.mem_cons_self
      · rw [if_neg hd, hwf.2.1 hd]
        trivial
theorem pfF : ∀ (f : LForest) (pre : List Bytes) (D : List RelPath), (∀ x ∈ pre, Normal x) →
    (∀ k, k ≤ pre.length → ofComps (pre.take k) ∈ D) → LWFF f → PF D ((flattenF (toForest pre f)).map entOf)
  | .nil => fun _ _ _ _ _ => trivial
  | .cons t f => by
    intro pre D hpre hD hwf
    show PF D ((flatten (toTree pre t) ++ flattenF (toForest pre f)).map entOf)
    rw [List.map_append]
    exact PF_append (pfT t pre D hpre hD hwf.1) (pfF f pre D hpre hD hwf.2.1)
end

end Rio
