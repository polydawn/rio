/-! List facts that are about no model in particular: what `List.set` does to membership and to lookups, what `Nodup` of
    an image says, `find?` up to permutation, a list is empty or ends in an element. -/
namespace Rio

theorem forall_mem_set {α : Type} {P : α → Prop} {l : List α} (h : ∀ x ∈ l, P x) (i : Nat) {a : α} (ha : P a) :
    ∀ x ∈ l.set i a, P x := by
  intro x hx
  rcases List.mem_or_eq_of_mem_set hx with hx | rfl
  · exact h x hx
  · exact ha

theorem getElem?_set_cases {α : Type} {l : List α} {i j : Nat} {a x : α} (h : (l.set i a)[j]? = some x) :
    (j = i ∧ x = a) ∨ (j ≠ i ∧ l[j]? = some x) := by
  by_cases hij : i = j
  · subst hij
    obtain ⟨hlt, hx⟩ := List.getElem?_eq_some_iff.1 h
    exact Or.inl ⟨rfl, hx.symm.trans (List.getElem_set_self hlt)⟩
  · rw [List.getElem?_set_ne hij] at h
    exact Or.inr ⟨fun e => hij e.symm, h⟩

theorem getElem?_set_self_of_eq_some {α : Type} {l : List α} {i : Nat} {x : α} (h : l[i]? = some x) (a : α) :
    (l.set i a)[i]? = some a :=
  List.getElem?_set_self (List.getElem?_eq_some_iff.1 h).1

theorem nodup_map_after {α β : Type} {f : α → β} {pre post : List α} {a : α} (h : ((pre ++ a :: post).map f).Nodup) :
    ∀ b ∈ post, f b ≠ f a := by
  intro b hb e
  rw [List.map_append, List.map_cons, List.nodup_append, List.nodup_cons] at h
  exact h.2.1.1 (e ▸ List.mem_map_of_mem hb)

theorem inj_of_nodup_map {α β : Type} {f : α → β} {l : List α} (h : (l.map f).Nodup)
    {a b : α} (ha : a ∈ l) (hb : b ∈ l) (e : f a = f b) : a = b :=
  have hp : l.Pairwise fun a b => f a ≠ f b := List.pairwise_map.1 h
  List.Pairwise.forall_of_forall_of_flip (R := fun a b => f a = f b → a = b) (fun _ _ _ => rfl)
    (hp.imp fun hne e => absurd e hne) (hp.imp fun hne e => absurd e.symm hne) ha hb e

theorem find?_perm_unique {α : Type} (p : α → Bool) {l₁ l₂ : List α} (hp : l₁.Perm l₂)
    (huniq : ∀ a ∈ l₁, ∀ b ∈ l₁, p a = true → p b = true → a = b) :
    l₁.find? p = l₂.find? p := by
  cases h1 : l₁.find? p with
  | none =>
    exact (List.find?_eq_none.2 fun x hx => List.find?_eq_none.1 h1 x (hp.mem_iff.2 hx)).symm
  | some a =>
    have ha : a ∈ l₁ := List.mem_of_find?_eq_some h1
    have hpa : p a = true := List.find?_some h1
    cases h2 : l₂.find? p with
    | none =>
      exact absurd hpa (List.find?_eq_none.1 h2 a (hp.mem_iff.1 ha))
    | some b =>
      have hb : b ∈ l₁ := hp.mem_iff.2 (List.mem_of_find?_eq_some h2)
      have hpb : p b = true := List.find?_some h2
      rw [huniq a ha b hb hpa hpb]

theorem filterMap_eq_self {α : Type} {f : α → Option α} {l : List α} (h : ∀ x ∈ l, f x = some x) : l.filterMap f = l := by
  induction l with
  | nil => rfl
  | cons x xs ih => rw [List.filterMap_cons, h x List.mem_cons_self, ih fun y hy => h y (List.mem_cons_of_mem _ hy)]

theorem eq_nil_or_snoc {α : Type} (cs : List α) : cs = [] ∨ ∃ init l, cs = init ++ [l] := by
  simpa only [List.concat_eq_append] using List.eq_nil_or_concat cs

end Rio
