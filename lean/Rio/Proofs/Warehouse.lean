import Rio.Model.Warehouse
/-!
# `PickReader` over a list of warehouses

`pickReader requireMono ws i anyUp` is the loop of `util.PickReader` from warehouse number `i` on.  `anyUp` is Go's
`anyWarehouses`: some warehouse so far answered "not found", so it was reachable; it only selects the final error.
`requireMono` is the mode of the scanner's fetch from one single-ware address: content-addressed schemes are refused and
an unreachable warehouse is an error, not skipped.  Everything below is for `requireMono = false`, the fetch of unpack
and mirror.  In terms of three predicates on a warehouse (it holds the ware, it is skipped, it is skipped with an answer)
that loop has one equation (`pick_cons`); a skippable prefix is passed over (`pick_skip`), and the fetch is served by the
first holder (`pick_first`).
-/
namespace Rio

/-- the warehouse would serve the ware -/
def Wh.holds (w : Wh) : Prop := w.scheme.supported = true ∧ w.dial = .ok ∧ w.open_ = .ok
/-- dead or lacking: skipped -/
def Wh.skippable (w : Wh) : Prop := w.scheme.supported = true ∧ (w.dial = .unavailable ∨ w.open_ ≠ .ok)
/-- reachable but lacking the ware -/
def Wh.answersNotFound (w : Wh) : Prop := w.scheme.supported = true ∧ w.dial = .ok ∧ w.open_ = .notFound

instance (w : Wh) : Decidable w.holds := by unfold Wh.holds; infer_instance
instance (w : Wh) : Decidable w.skippable := by unfold Wh.skippable; infer_instance
instance (w : Wh) : Decidable w.answersNotFound := by unfold Wh.answersNotFound; infer_instance

theorem pick_cons (w : Wh) (ws : List Wh) (i : Nat) (anyUp : Bool) :
    pickReader false (w :: ws) i anyUp =
      if w.holds then .opened i
      else if w.skippable then pickReader false ws (i + 1) (anyUp || decide w.answersNotFound)
      else .err .usage := by
  rw [pickReader]
  cases hs : w.scheme.supported <;> cases hd : w.dial <;> cases ho : w.open_ <;>
    simp [Wh.holds, Wh.skippable, Wh.answersNotFound, hs, hd, ho]

theorem Wh.skippable.not_holds {w : Wh} (h : w.skippable) : ¬ w.holds := by
  rintro ⟨-, hd, ho⟩
  rcases h.2 with h | h
  · rw [hd] at h
    cases h
  · exact h ho

theorem pick_skip (pre rest : List Wh) (i : Nat) (anyUp : Bool) (hpre : ∀ w ∈ pre, w.skippable) :
    pickReader false (pre ++ rest) i anyUp =
      pickReader false rest (i + pre.length) (anyUp || pre.any (fun w => decide w.answersNotFound)) := by
  induction pre generalizing i anyUp with
  | nil => simp
  | cons w ws ih =>
    have hw := hpre w List.mem_cons_self
    rw [List.cons_append, pick_cons, if_neg hw.not_holds, if_pos hw, ih _ _ (fun w' h => hpre w' (List.mem_cons_of_mem _ h))]
    simp only [List.any_cons, Bool.or_assoc, List.length_cons]
    congr 1
    omega

/-- `k` is the first holder: it holds, and everything before it is skippable -/
def FirstHolder (ws : List Wh) (k : Nat) : Prop :=
  (∃ w, ws[k]? = some w ∧ w.holds) ∧ ∀ j, j < k → ∃ w, ws[j]? = some w ∧ w.skippable

theorem FirstHolder.not_nil (k : Nat) : ¬ FirstHolder [] k := by
  simp [FirstHolder]

theorem FirstHolder.cons_zero (w : Wh) (ws : List Wh) : FirstHolder (w :: ws) 0 ↔ w.holds := by
  simp [FirstHolder]

theorem FirstHolder.cons_succ (w : Wh) (ws : List Wh) (k : Nat) :
    FirstHolder (w :: ws) (k + 1) ↔ w.skippable ∧ FirstHolder ws k := by
  simp only [FirstHolder, Nat.forall_lt_succ_left, List.getElem?_cons_succ, List.getElem?_cons_zero, Option.some.injEq,
    exists_eq_left']
  exact and_left_comm

theorem pick_first (ws : List Wh) (i : Nat) (anyUp : Bool) (n : Nat) :
    pickReader false ws i anyUp = .opened n ↔ ∃ k, n = i + k ∧ FirstHolder ws k := by
  induction ws generalizing i anyUp with
  | nil => simp [pickReader, FirstHolder.not_nil]
  | cons w ws ih =>
    rw [pick_cons]
    constructor
    · split
      · rename_i hh
        intro h
        cases h
        exact ⟨0, rfl, (FirstHolder.cons_zero w ws).2 hh⟩
      · split
        · rename_i hs
          intro h
          obtain ⟨k, hn, hk⟩ := (ih _ _).1 h
          exact ⟨k + 1, by omega, (FirstHolder.cons_succ w ws k).2 ⟨hs, hk⟩⟩
        · nofun
    · rintro ⟨k, hn, hk⟩
      cases k with
      | zero =>
        rw [if_pos ((FirstHolder.cons_zero w ws).1 hk), hn]
        rfl
      | succ k =>
        obtain ⟨hs, hk⟩ := (FirstHolder.cons_succ w ws k).1 hk
        rw [if_neg hs.not_holds, if_pos hs]
        exact (ih _ _).2 ⟨k, by omega, hk⟩

theorem chunkifyHash_of_long {h : Bytes} (hl : 7 ≤ h.length) :
    chunkifyHash h = (h.take 3, (h.drop 3).take 3, h.drop 6) := by
  unfold chunkifyHash
  rw [if_neg (by omega)]

end Rio
