import Rio.Proofs.HashOrder
import Rio.Proofs.Bytes
/-!
# `HashBucket` never crashes on a bucket with distinct, root-anchored keys

The bucket's own panics are of two kinds: `ErrInvalidFilesystem` values (missing root, repeated path, missing tree),
which the unpackers recover and report as a corrupt ware, and invariant failures / runtime errors
(`index out of range` on an empty bucket, `visited k of n nodes`, `slice bounds out of range`), which crash the
process.  Here: if the keys are distinct and every key is `.` or starts with `./` (what `MustRelPath` names that do not
go up print as; `Anchored`), only the first kind can happen (`Panic.crashes` is false).
-/
namespace Rio

/-- the panics that are *not* recovered -/
def Panic.crashes : Panic → Bool
  | .emptyBucket | .countMismatch | .sliceBounds => true
  | .missingRoot | .repeatedPath | .missingTree => false

/-- the record's key is the one `AddRecord` files it under, and its name prints as `.` or `./…` -/
def Anchored (r : Record) : Prop :=
  r.name = recordName r.m ∧ (r.m.name.str = [dot] ∨ hasPrefix r.m.name.str [dot, slash] = true)

theorem popWhile_frames_eq (H : Bytes → Bytes) (n : Bytes) (fs : List Frame) (accs : List Bytes) (fin : Bytes) :
    (popWhile H n fs accs fin).frames = fs.dropWhile fun f => !hasPrefix n f.name := by
  induction fs generalizing accs fin with
  | nil => rfl
  | cons f fs ih =>
    rw [popWhile, List.dropWhile_cons]
    cases hasPrefix n f.name
    · exact ih _ _
    · rfl

/-- a frame whose name is a prefix of `n` survives the popping for `n`; no frame is added, and the new top, if
    there is one, is a prefix of `n` -/
theorem popWhile_keeps_prefix (H : Bytes → Bytes) (n : Bytes) (fs : List Frame) (accs : List Bytes) (fin : Bytes)
    {f : Frame} (hf : f ∈ fs) (hp : f.name <+: n) :
    f ∈ (popWhile H n fs accs fin).frames ∧ (popWhile H n fs accs fin).frames ⊆ fs ∧
      ∀ top ∈ (popWhile H n fs accs fin).frames.head?, top.name <+: n := by
  rw [popWhile_frames_eq]
  refine ⟨?_, List.dropWhile_subset _, fun top ht => ?_⟩
  · rw [← List.takeWhile_append_dropWhile (p := fun f => !hasPrefix n f.name) (l := fs), List.mem_append] at hf
    exact hf.resolve_left fun hm => by simpa [hp] using List.all_eq_true.1 List.all_takeWhile f hm
  · have := List.head?_dropWhile_not (fun f => !hasPrefix n f.name) fs
    rw [Option.mem_def.1 ht] at this
    simpa using this

theorem visit_frames_eq (H : Bytes → Bytes) (r : Record) (s : St) :
    (visit H r s).frames = ⟨r.name, decide (r.m.kind = .dir)⟩ :: s.frames := by
  unfold visit
  cases r.m.kind <;> rfl

/-- the walk: with a frame on the stack whose name prefixes every remaining key, and every frame name strictly
    below every remaining key, `scan` can only fail with `missingTree` -/
theorem scan_no_crash (H : Bytes → Bytes) (rs : List Record) : ∀ (prev : Bytes) (s : St),
    (∃ f ∈ s.frames, ∀ r ∈ rs, f.name <+: r.name) →
    (∀ f ∈ s.frames, ∀ r ∈ rs, bytesLt f.name r.name = true) →
    (∀ r ∈ rs, bytesLt prev r.name = true) → SortedBy (·.name) rs →
    ∀ p, scan H rs prev s = .error p → p = .missingTree := by
  induction rs with
  | nil =>
    intro _ _ _ _ _ _ p h
    cases h
  | cons r rs ih =>
    intro prev s ⟨fr, hfr, hpre⟩ hlt hprev hsrt p h
    obtain ⟨hkeep, hsub, htop⟩ := popWhile_keeps_prefix H r.name s.frames s.accs s.fin hfr (hpre r List.mem_cons_self)
    obtain ⟨hr, hsrt⟩ := List.pairwise_cons.1 hsrt
    rw [scan] at h
    cases e : (popWhile H r.name s.frames s.accs s.fin).frames with
    | nil =>
      rw [e] at hkeep
      cases hkeep
    | cons top rest =>
      rw [e] at hkeep hsub htop
      simp only [e] at h
      -- `top` is a proper prefix of the key, so the slice bounds are in order
      have hp := htop top rfl
      have hlen := slice_in_bounds hp (bytesLt_ne (hlt top (hsub List.mem_cons_self) r List.mem_cons_self))
      simp only [bytesLt_ne (hprev r List.mem_cons_self), hlen, if_false] at h
      split at h
      · injection h with h
        exact h.symm
      · refine ih r.name _ ⟨fr, ?_, fun x hx => hpre x (List.mem_cons_of_mem _ hx)⟩ ?_ hr hsrt p h
        · rw [visit_frames_eq, e]
          exact List.mem_cons_of_mem _ hkeep
        · intro f hf x hx
          rw [visit_frames_eq, e] at hf
          rcases List.mem_cons.1 hf with rfl | hf
          · exact hr x hx
          · exact hlt f (hsub hf) x (List.mem_cons_of_mem _ hx)

theorem Anchored.key_cases {r : Record} (h : Anchored r) : r.name = [dot] ∨ [dot, slash] <+: r.name := by
  rw [h.1, recordName]
  split
  · rcases h.2 with e | e
    · exact .inr (e ▸ List.prefix_refl _)
    · exact .inr ((hasPrefix_iff.1 e).trans (List.prefix_append _ _))
  · exact h.2.imp_right hasPrefix_iff.1

theorem Anchored.dot_prefix {r : Record} (h : Anchored r) : [dot] <+: r.name :=
  h.key_cases.elim (fun e => e ▸ List.prefix_refl _) (List.prefix_append [dot] [slash]).trans

/-- **`HashBucket` never crashes** on a non-empty bucket with distinct anchored keys: it returns a value or one of the
    recovered `ErrInvalidFilesystem` panics. -/
theorem hashBucket_no_crash (H : Bytes → Bytes) (recs : List Record) (hne : recs ≠ [])
    (hn : (recs.map (·.name)).Nodup) (ha : ∀ r ∈ recs, Anchored r) :
    ∀ p, hashBucket H recs = .error p → p.crashes = false := by
  intro p hp
  rw [hashBucket_of_nodup H hn] at hp
  have hperm := perm_sortBy (·.name) recs
  have hsrt := sortedBy_sortBy hn
  cases hl : sortBy (·.name) recs with
  | nil => exact absurd (hl ▸ hperm).nil_eq.symm hne
  | cons r0 rs =>
    rw [hl] at hp hsrt hperm
    obtain ⟨hr, hsrt⟩ := List.pairwise_cons.1 hsrt
    rw [walkSorted] at hp
    by_cases hroot : r0.m.name = ⟨[], 0⟩
    · rw [if_neg (not_not_intro hroot)] at hp
      have h0 : r0.name = [dot] ∨ r0.name = [dot, slash] := by
        rw [(ha r0 (hperm.subset List.mem_cons_self)).1, recordName, hroot]
        split
        · exact .inr rfl
        · exact .inl rfl
      -- the root key prefixes every other key: no key `.` can follow the root key `./`
      have hpre : ∀ r ∈ rs, r0.name <+: r.name := by
        intro r hr'
        have hlt : bytesLt r0.name r.name = true := hr r hr'
        have hra := ha r (hperm.subset (List.mem_cons_of_mem _ hr'))
        rcases h0 with e0 | e0
        · exact e0 ▸ hra.dot_prefix
        · rcases hra.key_cases with e | e
          · rw [e0, e] at hlt
            cases hlt
          · exact e0 ▸ e
      have hfr := visit_frames_eq H r0 ⟨[], [], []⟩
      obtain rfl : p = .missingTree := by
        refine scan_no_crash H rs r0.name _ ⟨_, hfr ▸ List.mem_cons_self, hpre⟩ (fun f hf => ?_) hr hsrt p hp
        rw [hfr, List.mem_singleton] at hf
        exact hf ▸ hr
      rfl
    · rw [if_pos hroot] at hp
      cases hp
      rfl

end Rio
