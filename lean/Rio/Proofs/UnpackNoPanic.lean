import Rio.Model.Tar
import Rio.Model.Zip
import Rio.Proofs.NoCrash
import Rio.Proofs.PathTheory
import Rio.Props.C12
import Rio.Proofs.Branches
import Rio.Proofs.RecordName
import Rio.Proofs.ZipHdr
/-!
# The tar and zip unpack loops never panic (model level)

Both entry loops keep one invariant, `UInv`; what follows the loops does not panic on a state that satisfies it
(`finishUnpack_sat`).  Statements have the form `o.Sat (UInv filt)` (`Outcome.Sat`, Rio/Proofs/Branches.lean): the outcome is an error or a
state that satisfies the invariant.  The step that `unpackEntry` and `unpackZipEntry` have in common is `unpackMeta`;
`unpackMeta_sat` and `unpackMeta_not_ok` speak for both formats.
-/
namespace Rio

/-- a name the unpacker accepts: canonical, and not printed with a leading `..` -/
def GoodName (p : RelPath) : Prop := p.Clean ∧ hasPrefix p.str [dot, dot] = false

def Filed (r : Record) : Prop := r.name = recordName r.m ∧ GoodName r.m.name

theorem Filed.anchored {r : Record} (h : Filed r) : Anchored r :=
  ⟨h.1, RelPath.str_anchored _ h.2.2⟩

/-- What the loop files as one entry: `m` in the prefilter bucket, `m'` in the filtered one.  The name is one the
    unpacker accepts, the two records have the same key, and under a non-altering filter they are the same record. -/
structure Filtered (filt : UnpackFilter) (m m' : Meta) : Prop where
  good : GoodName m.name
  name : m'.name = m.name
  kind : m'.kind = m.kind
  same : filt.altering = false → m' = m

theorem Filtered.key {filt : UnpackFilter} {m m' : Meta} (h : Filtered filt m m') : recordName m' = recordName m := by
  unfold recordName
  rw [h.name, h.kind]

/-- zip reads a symlink's target from the body after the filter has run -/
theorem Filtered.linkname {filt : UnpackFilter} {m m' : Meta} (h : Filtered filt m m') (l : Bytes) :
    Filtered filt { m with linkname := l } { m' with linkname := l } :=
  ⟨h.good, h.name, h.kind, fun hna => by rw [h.same hna]⟩

theorem applyUidGid_eq (myUid myGid : Nat) (ff : UnpackFilter) (m : Meta) :
    applyUidGid myUid myGid ff m =
      { m with uid := (specUnpack myUid myGid ff m).uid, gid := (specUnpack myUid myGid ff m).gid } := by
  unfold applyUidGid
  simp only [↓Meta.ite_ite_uid, ↓Meta.ite_ite_gid]
  rfl

/-- the record of a conjured parent, whether the filter succeeded on it or stopped at `mtime=now` -/
theorem conjFiltered_filtered (myUid myGid : Nat) (filt : UnpackFilter) {p : RelPath} (hg : GoodName p) :
    Filtered filt (defaultDirMeta p) (conjFiltered myUid myGid filt (defaultDirMeta p)) := by
  unfold conjFiltered
  split
  · rename_i c hf
    cases applyUnpackFilter_ok hf
    -- a directory is no device node: the filter keeps its type
    exact ⟨hg, rfl, if_neg (fun h => nomatch h.2.2), specUnpack_nonaltering myUid myGid _⟩
  · rw [applyUidGid_eq]
    exact ⟨hg, rfl, rfl, fun hna => by rw [specUnpack_nonaltering _ _ _ hna]⟩

/-- The invariant of both entry loops.  What each field is for:
    * `preNodup`, `preOk`, `postOk`, `postSub` are what `hashBucket_no_crash` asks of the two buckets once the loop is
      over: distinct anchored keys.  `postSub`: the filtered bucket is the prefilter bucket without the entries the
      filter ejected, so its keys are distinct too.  `preOk` also lets a comparison of keys be read as one of name and
      kind (`recordName_eq_iff` needs canonical names).
    * `dirsOk`: a parent that is not in `dirs` has no directory record yet, so the record conjured for it has a fresh
      key (`fresh_dir_of_not_in_dirs`).
    * `same`: under a non-altering filter the paranoia check compares a hash with itself (`finishUnpack_sat`). -/
structure UInv {σ : Type} (filt : UnpackFilter) (st : UnpackSt σ) : Prop where
  preNodup : (st.pre.map (·.name)).Nodup
  preOk : ∀ r ∈ st.pre, Filed r
  postOk : ∀ r ∈ st.post, Filed r
  postSub : (st.post.map (·.name)).Sublist (st.pre.map (·.name))
  dirsOk : ∀ r ∈ st.pre, r.m.kind = .dir → r.m.name ∈ st.dirs
  same : filt.altering = false → st.post = st.pre

section
variable {σ : Type} {filt : UnpackFilter} {st : UnpackSt σ}
open Bucket

theorem uinv_init (filt : UnpackFilter) (s0 : σ) : UInv filt (⟨s0, [], [], []⟩ : UnpackSt σ) :=
  ⟨List.nodup_nil, fun _ h => (nomatch h), fun _ h => (nomatch h), .slnil, fun _ h => (nomatch h), fun _ => rfl⟩

theorem uinv_add {m m' : Meta} {ch : Bytes} {fs' : σ} {dirs' : List RelPath} (hi : UInv filt st)
    (hf : Filtered filt m m') (hfresh : st.pre.has m = false)
    (hd : st.dirs ⊆ dirs') (hdm : m.kind = .dir → m.name ∈ dirs') :
    UInv filt { fs := fs', pre := st.pre.add m ch, post := st.post.add m' ch, dirs := dirs' } where
  preNodup := nodup_add ch hi.preNodup hfresh
  preOk := forall_mem_add.2 ⟨hi.preOk, rfl, hf.good⟩
  postOk := forall_mem_add.2 ⟨hi.postOk, rfl, hf.name ▸ hf.good⟩
  postSub := by
    rw [names_add, names_add, hf.key]
    exact hi.postSub.append (.refl _)
  dirsOk := forall_mem_add.2 ⟨fun r hr hkd => hd (hi.dirsOk r hr hkd), hdm⟩
  same := fun hna => by rw [hi.same hna, hf.same hna]

/-- adding an entry the filter ejects (prefilter bucket only; only possible with an altering filter) -/
theorem uinv_add_pre {m : Meta} {ch : Bytes} (hi : UInv filt st) (hg : GoodName m.name)
    (hfresh : st.pre.has m = false) (hk : m.kind ≠ .dir) (halt : filt.altering = true) :
    UInv filt { st with pre := st.pre.add m ch } where
  preNodup := nodup_add ch hi.preNodup hfresh
  preOk := forall_mem_add.2 ⟨hi.preOk, rfl, hg⟩
  postOk := hi.postOk
  postSub := by
    rw [names_add]
    exact hi.postSub.trans (List.sublist_append_left ..)
  dirsOk := forall_mem_add.2 ⟨hi.dirsOk, fun hkd => absurd hkd hk⟩
  same := fun hna => by
    rw [halt] at hna
    cases hna

/-- replacing the record of a directory that is stated again -/
theorem uinv_update {m m' : Meta} {ch : Bytes} {fs' : σ} {dirs' : List RelPath} (hi : UInv filt st)
    (hf : Filtered filt m m') (hd : st.dirs ⊆ dirs') (hdm : m.name ∈ dirs') :
    UInv filt { fs := fs', pre := st.pre.update m ch, post := st.post.update m' ch, dirs := dirs' } where
  preNodup := by
    rw [names_update]
    exact hi.preNodup
  preOk := forall_mem_update hi.preOk ⟨rfl, hf.good⟩
  postOk := forall_mem_update hi.postOk ⟨rfl, hf.name ▸ hf.good⟩
  postSub := by
    rw [names_update, names_update]
    exact hi.postSub
  dirsOk := forall_mem_update (fun r hr hkd => hd (hi.dirsOk r hr hkd)) fun _ => hdm
  same := fun hna => by rw [hi.same hna, hf.same hna]

theorem fresh_dir_of_not_in_dirs (hi : UInv filt st) (p : RelPath)
    (hg : GoodName p) (hp : p ∉ st.dirs) : st.pre.has (defaultDirMeta p) = false := by
  refine Bool.eq_false_iff.2 fun hh => ?_
  obtain ⟨r, hr, e⟩ := List.mem_map.1 ((Bucket.has_iff _ _).1 hh)
  obtain ⟨hk, hgr⟩ := hi.preOk r hr
  obtain ⟨(hn : r.m.name = p), hd⟩ := (recordName_eq_iff r.m (defaultDirMeta p) hgr.1 hg.1).1 (hk ▸ e)
  exact hp (hn ▸ hi.dirsOk r hr (hd.2 rfl))

end

theorem goodName_default (p : RelPath) (h : GoodName p) : GoodName (defaultDirMeta p).name := h

/-- conjuring adds directory records only, so a non-directory key that was fresh stays fresh: what `unpackMeta_sat` needs
    to file the entry itself afterwards -/
theorem conjure_sat {σ : Type} (ops : FsOps σ) (myUid myGid : Nat) (filt : UnpackFilter) :
    ∀ (ps : List RelPath) (st : UnpackSt σ), UInv filt st → (∀ p ∈ ps, GoodName p) →
    (conjureParents ops myUid myGid filt ps st).Sat fun st' =>
      UInv filt st' ∧
      (∀ m : Meta, m.kind ≠ .dir → GoodName m.name → st.pre.has m = false → st'.pre.has m = false) := by
  intro ps
  induction ps with
  | nil => exact fun _ hi _ => ⟨hi, fun _ _ _ h => h⟩
  | cons p ps ih =>
    intro st hi hps
    obtain ⟨hgp, hps'⟩ := List.forall_mem_cons.1 hps
    rw [conjureParents]
    refine Outcome.sat_ite (fun _ => ih st hi hps') fun hc => ?_
    refine Outcome.sat_ite_err fun _ => ?_
    -- Unfolds the model's `have`s, so that the `place` call stands in the goal as it is written on the next line and
    -- `obtain` can split its result.  `-iota`: otherwise the `match` on that result becomes `.fst` / `.snd` of the call.
    dsimp -iota only
    obtain ⟨fs', _ | c⟩ := ops.place st.fs (conjFiltered myUid myGid filt (defaultDirMeta p)) [] true
    case some => trivial
    have hi1 := uinv_add (ch := []) (fs' := fs') hi (conjFiltered_filtered myUid myGid filt hgp)
      (fresh_dir_of_not_in_dirs hi p hgp (mt List.contains_iff_mem.2 hc)) (List.subset_cons_self ..) fun _ => List.mem_cons_self
    refine (ih _ hi1 hps').mono fun st' ⟨a, c⟩ => ⟨a, fun m hmk hmg hmf => ?_⟩
    -- the conjured key ends with `/`, a non-directory key does not
    refine c m hmk hmg ?_
    rw [Bucket.has_add, hmf, Bool.false_or]
    exact decide_eq_false fun e => hmk (((recordName_eq_iff _ _ hgp.1 hmg.1).1 e).2.1 rfl)

theorem tarType_ne_kind_invalid (t : UInt8) : tarTypeToFsType t ≠ .kind .invalid :=
  ite_ne nofun <| ite_ne nofun <| ite_ne nofun <| ite_ne nofun <| ite_ne nofun <| ite_ne nofun <|
  ite_ne nofun <| ite_ne nofun nofun

theorem tarHdrToMeta_cases (h : TarHdr) :
    tarHdrToMeta h = .skip ∨ tarHdrToMeta h = .halt .wareCorrupt ∨
    ∃ m, tarHdrToMeta h = .meta_ m ∧ mustRel h.name = some m.name ∧ m.kind ≠ .invalid := by
  unfold tarHdrToMeta
  cases ht : tarTypeToFsType h.typeflag with
  | skip => exact .inl rfl
  | invalid => cases mustRel h.name <;> exact .inr (.inl rfl)
  | kind k =>
    cases hn : mustRel h.name with
    | none => exact .inr (.inl rfl)
    | some n => exact .inr (.inr ⟨_, rfl, rfl, fun e : k = .invalid => tarType_ne_kind_invalid _ (e ▸ ht)⟩)

theorem goodName_iff_comps {cs : List Bytes} (hc : CleanComps false cs) :
    GoodName (ofComps cs) ↔ cs.head? ≠ some dd :=
  ⟨fun hg => (notUp_iff (Comps.of_clean hc)).1 hg.2, fun hh => ⟨⟨cs, hc, rfl⟩, (notUp_iff (Comps.of_clean hc)).2 hh⟩⟩

theorem splitParent_good (p : RelPath) (hg : GoodName p) : ∀ q ∈ p.splitParent, GoodName q := by
  obtain ⟨cs, hc, rfl⟩ := hg.1
  have hh := (goodName_iff_comps hc).1 hg
  intro q hq
  rw [splitParent_ofComps (Comps.of_clean hc)] at hq
  obtain ⟨k, _, rfl⟩ := List.mem_map.1 hq
  have hck : CleanComps false (cs.take k) :=
    (CleanComps.split (b := cs.drop k) ((List.take_append_drop k cs).symm ▸ hc)).1
  apply (goodName_iff_comps hck).2
  rw [List.head?_take]
  split
  · nofun
  · exact hh

/-- What `unpackEntry` and `unpackZipEntry` do with a converted header up to the placing of the entry itself, which is
    where the two formats differ (`place`).  Both are this function by unfolding, so `place` never has to be written
    out: `refine unpackMeta_sat … _ …` finds it. -/
def unpackMeta {σ : Type} (ops : FsOps σ) (myUid myGid : Nat) (filt : UnpackFilter) (fmeta : Meta)
    (place : UnpackSt σ → Meta → Outcome (UnpackSt σ)) (st : UnpackSt σ) : Outcome (UnpackSt σ) :=
  if hasPrefix fmeta.name.str [dot, dot] then .err .wareCorrupt else
  if fmeta.kind ≠ .dir ∧ st.pre.has fmeta then .err .wareCorrupt else
  if st.pre.has (twinOf fmeta) then .err .wareCorrupt else
  match conjureParents ops myUid myGid filt fmeta.name.splitParent st with
  | .panic w => .panic w
  | .err c => .err c
  | .ok st =>
    match applyUnpackFilter myUid myGid filt fmeta with
    | .panic w => .panic w
    | .err c => .err c
    | .ok filtered =>
      if filtered.kind = .invalid then .ok { st with pre := st.pre.add fmeta [] } else place st filtered

theorem unpackMeta_sat {σ : Type} (ops : FsOps σ) (myUid myGid : Nat) (filt : UnpackFilter) (fmeta : Meta)
    (place : UnpackSt σ → Meta → Outcome (UnpackSt σ)) (st : UnpackSt σ) (hi : UInv filt st)
    (hclean : fmeta.name.Clean) (hkinv : fmeta.kind ≠ .invalid)
    (hplace : ∀ st1 filtered, UInv filt st1 → Filtered filt fmeta filtered →
      (fmeta.kind ≠ .dir → st1.pre.has fmeta = false) → (place st1 filtered).Sat (UInv filt)) :
    (unpackMeta ops myUid myGid filt fmeta place st).Sat (UInv filt) := by
  unfold unpackMeta
  refine Outcome.sat_ite_err fun hup => Outcome.sat_ite_err fun hdup => Outcome.sat_ite_err fun _ => ?_
  have hgood : GoodName fmeta.name := ⟨hclean, by simpa using hup⟩
  refine (conjure_sat ops myUid myGid filt _ st hi (splitParent_good _ hgood)).elim (fun _ => trivial)
    fun st1 ⟨hi1, hfresh1⟩ => ?_
  -- non-directories were checked against the bucket before the parents were conjured
  have hfreshND : fmeta.kind ≠ .dir → st1.pre.has fmeta = false := fun hk =>
    hfresh1 fmeta hk hgood (by simpa [hk] using hdup)
  refine (applyUnpackFilter_sat myUid myGid filt fmeta).elim (fun _ => trivial) fun filtered hf => ?_
  subst hf
  refine Outcome.sat_ite (fun hinv => ?_) fun hinv => hplace st1 _ hi1 ⟨hgood, rfl,
    (specUnpack_kind myUid myGid filt fmeta).resolve_right fun h => hinv h.1, specUnpack_nonaltering myUid myGid fmeta⟩ hfreshND
  -- ejected by the filter: a device node under an altering filter; prefilter bucket only
  have hdev : isDevKind fmeta.kind = true :=
    (specUnpack_kind myUid myGid filt fmeta).elim (fun e => absurd (e ▸ hinv) hkinv) (·.2)
  have hnd : fmeta.kind ≠ .dir := fun e => by
    rw [e] at hdev
    cases hdev
  have halt : filt.altering = true :=
    Bool.of_not_eq_false fun ha => hkinv (specUnpack_nonaltering myUid myGid fmeta ha ▸ hinv)
  exact uinv_add_pre hi1 hgood (hfreshND hnd) hnd halt

theorem unpackEntry_sat {σ : Type} (ops : FsOps σ) (myUid myGid : Nat) (filt : UnpackFilter) (h : TarHdr)
    (st : UnpackSt σ) (hi : UInv filt st) : (unpackEntry ops myUid myGid filt h st).Sat (UInv filt) := by
  unfold unpackEntry
  obtain hm | hm | ⟨fmeta, hm, hname, hkinv⟩ := tarHdrToMeta_cases h
  · rw [hm]
    exact hi
  · rw [hm]
    trivial
  rw [hm]
  refine unpackMeta_sat ops myUid myGid filt fmeta _ st hi (mustRel_clean hname) hkinv ?_
  intro st filtered hi hf hfresh
  refine Outcome.sat_ite (fun hfile => ?_) fun _ => ?_
  · have hnd : fmeta.kind ≠ .dir := by simp [hfile]
    obtain ⟨fs', _ | c⟩ := ops.place st.fs filtered h.chash h.bodyOk
    case some => trivial
    exact uinv_add hi hf (hfresh hnd) (fun _ hp => hp) fun hd => absurd hd hnd
  · have hsub : st.dirs ⊆ if fmeta.kind = .dir then fmeta.name :: st.dirs else st.dirs := by
      split
      · exact List.subset_cons_self ..
      · exact fun _ hp => hp
    have hmem : fmeta.kind = .dir → fmeta.name ∈ if fmeta.kind = .dir then fmeta.name :: st.dirs else st.dirs :=
      fun hd => if_pos hd ▸ List.mem_cons_self
    obtain ⟨fs', _ | c⟩ := ops.place st.fs filtered [] true
    case some => trivial
    refine Outcome.sat_ite (fun hupd => ?_) fun hupd => ?_
    · exact uinv_update hi hf hsub (hmem (of_decide_eq_true (Bool.and_eq_true _ _ ▸ hupd).2))
    · have hfr : st.pre.has fmeta = false := by
        by_cases hd : fmeta.kind = .dir
        · simpa [hd] using hupd
        · exact hfresh hd
      exact uinv_add hi hf hfr hsub hmem

theorem unpackEntries_sat {σ : Type} (ops : FsOps σ) (myUid myGid : Nat) (filt : UnpackFilter) :
    ∀ (hs : List TarHdr) (st : UnpackSt σ), UInv filt st → (unpackEntries ops myUid myGid filt hs st).Sat (UInv filt) := by
  intro hs
  induction hs with
  | nil => exact fun _ hi => hi
  | cons h hs ih =>
    intro st hi
    rw [unpackEntries]
    exact (unpackEntry_sat ops myUid myGid filt h st hi).elim (fun _ => trivial) ih

/-- `isInvalidFilesystem` (the model's test for the panics the unpackers recover) and `crashes` (in which
    `hashBucket_no_crash` is stated) are complementary -/
theorem Panic.crashes_eq_false_iff_isInvalidFilesystem (p : Panic) :
    p.crashes = false ↔ p.isInvalidFilesystem = true := by
  cases p <;> simp [Panic.crashes, Panic.isInvalidFilesystem]

/-- an `ErrInvalidFilesystem` panic of the bucket is recovered and reported as a corrupt ware -/
theorem bucketPanic_sat {α : Type} {P : α → Prop} {p : Panic} (h : p.crashes = false) :
    (if p.isInvalidFilesystem then .err .wareCorrupt else .panic (panicMsg p) : Outcome α).Sat P := by
  rw [if_pos (p.crashes_eq_false_iff_isInvalidFilesystem.1 h)]
  trivial

/-- What follows the entry loop does not panic on a state that satisfies the loop invariant: both buckets are
    non-empty with distinct anchored keys, so `HashBucket` raises only what is recovered, and under a non-altering
    filter the two buckets are one, so the paranoia check compares a hash with itself. -/
theorem finishUnpack_sat {σ : Type} (H : Bytes → Bytes) (ops : FsOps σ) (filt : UnpackFilter) (st : UnpackSt σ)
    (hi : UInv filt st) : (finishUnpack H ops filt st).Sat fun _ => True := by
  unfold finishUnpack
  refine Outcome.sat_ite_err fun hpre => Outcome.sat_ite_err fun hpost => ?_
  have nc_post := fun H' => hashBucket_no_crash H' st.post hpost (hi.postSub.nodup hi.preNodup) fun r hr => (hi.postOk r hr).anchored
  have nc_pre := hashBucket_no_crash H st.pre hpre hi.preNodup fun r hr => (hi.preOk r hr).anchored
  cases h1 : hashBucket (fun _ => []) st.post with
  | error p => exact bucketPanic_sat (nc_post _ p h1)
  | ok _ =>
    obtain ⟨fs', _ | c⟩ := applySetTimes ops (repaveDirs (bucketLines st.post)) st.fs
    case some => trivial
    cases h2 : hashBucket H st.pre with
    | error p => exact bucketPanic_sat (nc_pre p h2)
    | ok a =>
      cases h3 : hashBucket H st.post with
      | error p => exact bucketPanic_sat (nc_post H p h3)
      | ok b =>
        refine Outcome.sat_ite (fun hne => ?_) fun _ => trivial
        cases hna : filt.altering with
        | true => simp [hna] at hne
        | false =>
          rw [hi.same hna, h2] at h3
          simp [hna, Except.ok.inj h3] at hne

/-- tar inlines after its loop what zip calls `finishUnpack` -/
theorem unpackTar_eq {σ : Type} (H : Bytes → Bytes) (ops : FsOps σ) (myUid myGid : Nat) (filt : UnpackFilter)
    (hdrs : List TarHdr) (fin : StreamEnd) (s0 : σ) (head : Bytes) :
    unpackTar H ops myUid myGid filt hdrs fin s0 head =
      if head.length < 10 then .err .wareCorrupt else
      match unpackEntries ops myUid myGid filt hdrs ⟨s0, [], [], []⟩ with
      | .panic w => .panic w
      | .err c => .err c
      | .ok st => if fin = .corrupt then .err .wareCorrupt else finishUnpack H ops filt st := by
  unfold unpackTar finishUnpack
  -- The two sides differ in their matchers only.  With the scrutinees opaque the check does not try to evaluate them,
  -- which is nine tenths of its cost otherwise.
  generalize hashBucket = hb
  generalize applySetTimes ops = ap
  rfl

/-! ## zip: its own header conversion and placing, the same shared step -/

theorem zipHdrToMeta_cases (h : ZipHdr) :
    zipHdrToMeta h = .halt .wareCorrupt ∨
    ∃ m, zipHdrToMeta h = .meta_ m ∧ mustRel h.name = some m.name ∧ m.kind ≠ .invalid := by
  unfold zipHdrToMeta
  cases hn : mustRel h.name with
  | none => exact .inl rfl
  | some name =>
    dsimp only
    split
    · exact .inl rfl
    · rename_i hk
      cases ho : zipOwnership h.extra with
      | panic => exact absurd ho (zipOwnership_never_panics _)
      | corrupt => exact .inl rfl
      | ok uid gid => exact .inr ⟨_, rfl, rfl, hk⟩

theorem recordName_linkname (m : Meta) (l : Bytes) : recordName { m with linkname := l } = recordName m := rfl

theorem zentry_sat {σ : Type} (ops : FsOps σ) (myUid myGid : Nat) (filt : UnpackFilter) (h : ZipHdr)
    (st : UnpackSt σ) (hi : UInv filt st) : (unpackZipEntry ops myUid myGid filt h st).Sat (UInv filt) := by
  unfold unpackZipEntry
  obtain hm | ⟨fmeta, hm, hname, hkinv⟩ := zipHdrToMeta_cases h
  · rw [hm]
    trivial
  rw [hm]
  refine unpackMeta_sat ops myUid myGid filt fmeta _ st hi (mustRel_clean hname) hkinv ?_
  intro st filtered hi hf hfresh
  refine Outcome.sat_ite (fun hfile => ?_) fun _ => Outcome.sat_ite (fun hlink => ?_) fun _ =>
    Outcome.sat_ite (fun hdir => ?_) fun _ => trivial
  · have hnd : fmeta.kind ≠ .dir := by simp [hfile]
    refine Outcome.sat_ite_err fun _ => ?_
    obtain ⟨fs', _ | c⟩ := ops.place st.fs filtered h.chash h.bodyOk
    case some => trivial
    exact uinv_add hi hf (hfresh hnd) (fun _ hp => hp) fun hd => absurd hd hnd
  · have hnd : fmeta.kind ≠ .dir := by simp [hlink]
    refine Outcome.sat_ite_err fun _ => ?_
    dsimp -iota only
    obtain ⟨fs', _ | c⟩ := ops.place st.fs { filtered with linkname := h.body } [] true
    case some => trivial
    exact uinv_add hi (hf.linkname h.body) (hfresh hnd) (fun _ hp => hp) fun hd => absurd hd hnd
  · obtain ⟨fs', _ | c⟩ := ops.place st.fs filtered [] true
    case some => trivial
    refine Outcome.sat_ite (fun _ => ?_) fun hupd => ?_
    · exact uinv_update hi hf (List.subset_cons_self ..) List.mem_cons_self
    · exact uinv_add hi hf (Bool.eq_false_iff.2 hupd) (List.subset_cons_self ..) fun _ => List.mem_cons_self

theorem zentries_sat {σ : Type} (ops : FsOps σ) (myUid myGid : Nat) (filt : UnpackFilter) :
    ∀ (hs : List ZipHdr) (st : UnpackSt σ), UInv filt st → (unpackZipEntries ops myUid myGid filt hs st).Sat (UInv filt) := by
  intro hs
  induction hs with
  | nil => exact fun _ hi => hi
  | cons h hs ih =>
    intro st hi
    rw [unpackZipEntries]
    exact (zentry_sat ops myUid myGid filt h st hi).elim (fun _ => trivial) ih

/-- the record key of "the name `p` as a non-directory": what `conjureParents` asks the bucket for before it conjures
    `p`, written out there as `{ defaultDirMeta p with kind := .file }`; the two are the same term by unfolding, and
    the proofs below use them as one.  It is the key of every non-directory named `p` (`fileTwin_key`, Props/C06);
    `twinOf` (Model/Tar) does the same for an entry's own metadata. -/
def fileTwin (p : RelPath) : Meta := { defaultDirMeta p with kind := .file }

/-- **Nothing is conjured below a name that an earlier entry supplied as a non-directory**: if some parent of the
    entry is not a known directory while the bucket holds that very name as a file / symlink / device, the parent
    loop does not come back with success (it answers corrupt-ware, or an earlier parent already failed). -/
theorem conjure_not_ok {σ : Type} (ops : FsOps σ) (myUid myGid : Nat) (filt : UnpackFilter) :
    ∀ (ps : List RelPath) (st : UnpackSt σ), (∃ p ∈ ps, p ∉ st.dirs ∧ st.pre.has (fileTwin p) = true) →
      ∀ st', conjureParents ops myUid myGid filt ps st ≠ .ok st' := by
  intro ps
  induction ps with
  | nil => exact fun _ ⟨_, hp, _⟩ => nomatch hp
  | cons q ps ih =>
    intro st ⟨p, hp, hnd, hhas⟩ st'
    -- `p` is not the head `q` in either branch that goes on, so it is still ahead
    have hps : p ≠ q → p ∈ ps := (List.mem_cons.1 hp).resolve_left
    rw [conjureParents]
    by_cases hc : st.dirs.contains q = true
    · have hpq : p ≠ q := fun e => hnd (e ▸ List.contains_iff_mem.1 hc)
      rw [if_pos hc]
      exact ih st ⟨p, hps hpq, hnd, hhas⟩ st'
    rw [if_neg hc]
    refine Outcome.ite_err_ne_ok fun hf => ?_
    have hpq : p ≠ q := fun e => hf (e ▸ hhas)
    dsimp -iota only
    obtain ⟨fs', _ | c⟩ := ops.place st.fs (conjFiltered myUid myGid filt (defaultDirMeta q)) [] true
    case some => nofun
    refine ih _ ⟨p, hps hpq, ?_, ?_⟩ st'
    · exact fun h => (List.mem_cons.1 h).elim hpq hnd
    · rw [Bucket.has_add, hhas, Bool.true_or]

theorem unpackMeta_not_ok {σ : Type} (ops : FsOps σ) (myUid myGid : Nat) (filt : UnpackFilter) (fmeta : Meta)
    (place : UnpackSt σ → Meta → Outcome (UnpackSt σ)) (st : UnpackSt σ)
    (h : ∃ p ∈ fmeta.name.splitParent, p ∉ st.dirs ∧ st.pre.has (fileTwin p) = true) (st' : UnpackSt σ) :
    unpackMeta ops myUid myGid filt fmeta place st ≠ .ok st' := by
  have hc := conjure_not_ok ops myUid myGid filt fmeta.name.splitParent st h
  unfold unpackMeta
  refine Outcome.ite_err_ne_ok fun _ => Outcome.ite_err_ne_ok fun _ => Outcome.ite_err_ne_ok fun _ => ?_
  generalize conjureParents ops myUid myGid filt fmeta.name.splitParent st = o at hc
  obtain s1 | c | w := o
  · exact absurd rfl (hc s1)
  all_goals nofun

end Rio
