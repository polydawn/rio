import Rio.Model.Tar
import Rio.Proofs.FilesetTree
import Rio.Proofs.RecordName
/-!
# In a fileset whose siblings have distinct names, no path is both a directory and something else

`LWFF` orders siblings by their *sort key* (`a` for a file, `a/` for a directory), which lets a file `a` and a directory
`a` stand side by side: no file system holds that.  `LDistF` adds what a directory really guarantees — the component
names below one directory are pairwise distinct — and this file derives the `hpaths` hypothesis of
`C02_scan_of_pack_fileset` from it.
-/
namespace Rio

def LForest.comps : LForest → List Bytes
  | .nil => []
  | .cons t f => t.comp :: f.comps

mutual
/-- component names below each directory are pairwise distinct -/
def LDist : LTree → Prop
  | .node _ _ _ kids => LDistF kids
def LDistF : LForest → Prop
  | .nil => True
  | .cons t f => LDist t ∧ LDistF f ∧ ∀ c ∈ f.comps, c ≠ t.comp
end

mutual
/-- the component paths of the nodes, in `flatten` order -/
def compsOf (pre : List Bytes) : LTree → List (List Bytes)
  | .node c _ _ kids => (pre ++ [c]) :: compsOfF (pre ++ [c]) kids
def compsOfF (pre : List Bytes) : LForest → List (List Bytes)
  | .nil => []
  | .cons t f => compsOf pre t ++ compsOfF pre f
end

mutual
theorem names_eq_comps : ∀ (t : LTree) (pre : List Bytes),
    (flatten (toTree pre t)).map (fun r => r.m.name) = (compsOf pre t).map ofComps
  | .node c _ _ kids => fun pre => congrArg (ofComps (pre ++ [c]) :: ·) (namesF_eq_comps kids (pre ++ [c]))
theorem namesF_eq_comps : ∀ (f : LForest) (pre : List Bytes),
    (flattenF (toForest pre f)).map (fun r => r.m.name) = (compsOfF pre f).map ofComps
  | .nil => fun _ => rfl
  | .cons t f => by
    intro pre
    show (flatten (toTree pre t) ++ flattenF (toForest pre f)).map _ = (compsOf pre t ++ compsOfF pre f).map _
    rw [List.map_append, List.map_append, names_eq_comps t pre, namesF_eq_comps f pre]
end

mutual
theorem compsOf_shape : ∀ (t : LTree) (pre : List Bytes) (p : List Bytes), p ∈ compsOf pre t → ∃ rest, p = pre ++ t.comp :: rest
  | .node c m ch kids => by
    intro pre p hp
    rcases List.mem_cons.1 hp with rfl | hp
    · exact ⟨[], rfl⟩
    · obtain ⟨c', _, rest, rfl⟩ := compsOfF_shape kids (pre ++ [c]) p hp
      exact ⟨c' :: rest, List.append_assoc ..⟩
theorem compsOfF_shape : ∀ (f : LForest) (pre : List Bytes) (p : List Bytes), p ∈ compsOfF pre f →
    ∃ c ∈ f.comps, ∃ rest, p = pre ++ c :: rest
  | .nil => fun _ _ h => nomatch h
  | .cons t f => by
    intro pre p hp
    rcases List.mem_append.1 hp with hp | hp
    · obtain ⟨rest, h⟩ := compsOf_shape t pre p hp
      exact ⟨t.comp, List.mem_cons_self, rest, h⟩
    · obtain ⟨c, hc, rest, h⟩ := compsOfF_shape f pre p hp
      exact ⟨c, List.mem_cons_of_mem _ hc, rest, h⟩
end

mutual
theorem compsOf_normal : ∀ (t : LTree) (pre : List Bytes), (∀ x ∈ pre, Normal x) → LWF t →
    ∀ p ∈ compsOf pre t, ∀ x ∈ p, Normal x
  | .node c m ch kids => by
    intro pre hpre hwf p hp
    have hall := normal_snoc hpre hwf.1
    rcases List.mem_cons.1 hp with rfl | hp
    · exact hall
    · exact compsOfF_normal kids (pre ++ [c]) hall hwf.2.2 p hp
theorem compsOfF_normal : ∀ (f : LForest) (pre : List Bytes), (∀ x ∈ pre, Normal x) → LWFF f →
    ∀ p ∈ compsOfF pre f, ∀ x ∈ p, Normal x
  | .nil => fun _ _ _ _ h => nomatch h
  | .cons t f => by
    intro pre hpre hwf p hp
    rcases List.mem_append.1 hp with hp | hp
    · exact compsOf_normal t pre hpre hwf.1 p hp
    · exact compsOfF_normal f pre hpre hwf.2.1 p hp
end

/-- what lies below a node has a longer path than the node -/
theorem not_mem_compsOfF_self (cs : List Bytes) (kids : LForest) : cs ∉ compsOfF cs kids := fun hmem => by
  obtain ⟨c, _, rest, h⟩ := compsOfF_shape kids cs cs hmem
  cases List.append_right_eq_self.1 h.symm

mutual
/-- **every path once** -/
theorem compsOf_nodup : ∀ (t : LTree) (pre : List Bytes), LDist t → (compsOf pre t).Nodup
  | .node c _ _ kids => fun pre hd =>
    List.nodup_cons.2 ⟨not_mem_compsOfF_self _ kids, compsOfF_nodup kids (pre ++ [c]) hd⟩
theorem compsOfF_nodup : ∀ (f : LForest) (pre : List Bytes), LDistF f → (compsOfF pre f).Nodup
  | .nil => fun _ _ => List.nodup_nil
  | .cons t f => by
    intro pre hd
    refine List.nodup_append.2 ⟨compsOf_nodup t pre hd.1, compsOfF_nodup f pre hd.2.1, fun a ha b hb hab => ?_⟩
    subst hab
    obtain ⟨r1, h1⟩ := compsOf_shape t pre a ha
    obtain ⟨c, hc, r2, h2⟩ := compsOfF_shape f pre a hb
    rw [h1] at h2
    have := List.append_cancel_left h2
    injection this with h3 _
    exact hd.2.2 c hc h3.symm
end

/-- the records of a fileset are named by pairwise distinct canonical paths -/
theorem flatten_root_paths (m : Meta) (ch : Bytes) (kids : LForest) (hwf : LWFF kids) (hd : LDistF kids) :
    ((flatten (toRoot m ch kids)).map (fun r => r.m.name)).Nodup ∧
    ∀ r ∈ flatten (toRoot m ch kids), r.m.name.Clean := by
  -- the component paths of the whole fileset: the root's, then those below it
  have hnames : (flatten (toRoot m ch kids)).map (fun r => r.m.name) = ([] :: compsOfF [] kids).map ofComps :=
    congrArg (ofComps [] :: ·) (namesF_eq_comps kids [])
  have hP : ∀ p ∈ [] :: compsOfF [] kids, CleanComps false p :=
    List.forall_mem_cons.2 ⟨CleanComps.nil false, fun p hp => allNormal_clean (compsOfF_normal kids [] nofun hwf p hp)⟩
  have hnd : ([] :: compsOfF [] kids).Nodup :=
    List.nodup_cons.2 ⟨not_mem_compsOfF_self [] kids, compsOfF_nodup kids [] hd⟩
  rw [← List.forall_mem_map (f := fun r : Record => r.m.name) (P := RelPath.Clean), hnames]
  exact ⟨List.pairwise_map.2 (hnd.imp_of_mem fun ha hb hne e =>
      hne (ofComps_inj (Comps.of_clean (hP _ ha)) (Comps.of_clean (hP _ hb)) e)),
    List.forall_mem_map.2 fun p hp => ⟨p, hP p hp, rfl⟩⟩

/-- **`hpaths` holds for every fileset whose directories hold each name once**: a record filed under the key of
    another's twin would have the same path, so be the same record, with the other kind -/
theorem hpaths_of_distinct (m : Meta) (ch : Bytes) (kids : LForest)
    (hshape : (m.kind = .dir ∧ LWFF kids) ∨ (m.kind ≠ .dir ∧ kids = .nil)) (hd : LDistF kids) :
    ∀ r ∈ flatten (toRoot m ch kids), ∀ r' ∈ flatten (toRoot m ch kids), r'.name ≠ recordName (twinOf r.m) := by
  obtain ⟨hndn, hclean⟩ := flatten_root_paths m ch kids (lwff_of_shape hshape) hd
  intro r hr r' hr' h
  rw [flatten_root_names_ok m ch kids r' hr'] at h
  obtain ⟨hn, hk⟩ := (recordName_eq_iff r'.m (twinOf r.m) (hclean r' hr') (hclean r hr)).1 h
  have := inj_of_nodup_map hndn hr' hr hn
  subst this
  by_cases hkd : r'.m.kind = .dir <;> simp [twinOf, hkd] at hk

end Rio
