import Rio.Spec.TreeHash
import Rio.Proofs.MetaInj
/-!
# The tree-hash pre-image determines the fileset (files and directories)

For an injective `H` (no collisions; in particular for the recording "hash" `H = id`, whose output *is* the
byte stream fed to the real hash), `specHash H` is injective on trees made of files and directories: equal
hashes force equal hashed attributes of every node, equal file content hashes, and the same children in the
same positions.
-/
namespace Rio

mutual
/-- every node is a regular file or a directory, with Go-representable field sizes (including the length of the
    node's own hash: 48 bytes for SHA-384; for the recording "hash" `id` it is the length of the pre-image) -/
def FD (H : Bytes → Bytes) : Tree → Prop
  | .node r kids => MBounded r.m ∧ r.chash.length < 2 ^ 64 ∧ (r.m.kind = .file ∨ r.m.kind = .dir) ∧
      (∀ h, specHash H (.node r kids) = some h → h.length < 2 ^ 64) ∧ FDF H kids
def FDF (H : Bytes → Bytes) : Forest → Prop
  | .nil => True
  | .cons t f => FD H t ∧ FDF H f
end

mutual
/-- files and directories only, Go-representable field sizes (no condition on `H`) -/
def FD0 : Tree → Prop
  | .node r kids => MBounded r.m ∧ r.chash.length < 2 ^ 64 ∧ (r.m.kind = .file ∨ r.m.kind = .dir) ∧ FDF0 kids
def FDF0 : Forest → Prop
  | .nil => True
  | .cons t f => FD0 t ∧ FDF0 f
end

mutual
/-- same hashed content: attribute views equal at every node, same content hash for files, and for directories
    the same children, position by position -/
def TEq : Tree → Tree → Prop
  | .node r1 k1, .node r2 k2 =>
    mview r1.m = mview r2.m ∧ (r1.m.kind = .file → r1.chash = r2.chash) ∧ (r1.m.kind = .dir → FEq k1 k2)
def FEq : Forest → Forest → Prop
  | .nil, .nil => True
  | .cons t1 f1, .cons t2 f2 => TEq t1 t2 ∧ FEq f1 f2
  | .nil, .cons _ _ => False
  | .cons _ _, .nil => False
end

@[simp] theorem FDF_cons {H : Bytes → Bytes} {t : Tree} {f : Forest} : FDF H (.cons t f) ↔ FD H t ∧ FDF H f :=
  Iff.rfl

@[simp] theorem FEq_nil : FEq .nil .nil :=
  trivial

@[simp] theorem FEq_cons {t1 t2 : Tree} {f1 f2 : Forest} : FEq (.cons t1 f1) (.cons t2 f2) ↔ TEq t1 t2 ∧ FEq f1 f2 :=
  Iff.rfl

/-- what follows the metadata in a node's pre-image -/
def nodeTail (H : Bytes → Bytes) (r : Record) (kids : Forest) : Bytes :=
  if r.m.kind = .dir then cborStr key_l ++ [cborIndefArray] ++ specKids H kids ++ [cborBreak]
  else cborStr key_h ++ cborBytes r.chash

theorem specHash_fd (H : Bytes → Bytes) {r : Record} (kids : Forest) (hk : r.m.kind = .file ∨ r.m.kind = .dir) :
    specHash H (.node r kids) = some (H (cborMap 2 ++ cborStr key_m ++ serMeta r.m ++ nodeTail H r kids)) := by
  rcases hk with hk | hk <;> simp [specHash, nodeTail, hk]

theorem specHash_some_of_FD (H : Bytes → Bytes) : ∀ t, FD H t → ∃ h, specHash H t = some h ∧ h.length < 2 ^ 64
  | .node r kids, hfd => by
    obtain ⟨-, -, hk, hl, -⟩ := hfd
    exact ⟨_, specHash_fd H kids hk, hl _ (specHash_fd H kids hk)⟩

mutual
theorem specHash_inj (H : Bytes → Bytes) (hH : ∀ a b, H a = H b → a = b) :
    ∀ (t1 t2 : Tree), FD H t1 → FD H t2 → specHash H t1 = specHash H t2 → TEq t1 t2
  | .node r1 k1, .node r2 k2, h1, h2, he => by
    obtain ⟨b1, c1, kd1, -, fk1⟩ := h1
    obtain ⟨b2, c2, kd2, -, fk2⟩ := h2
    rw [specHash_fd H k1 kd1, specHash_fd H k2 kd2, Option.some.injEq] at he
    have he := hH _ _ he
    simp only [List.append_assoc] at he
    obtain ⟨ev, ht⟩ := serMeta_inj b1 b2 (List.append_cancel_left (List.append_cancel_left he))
    -- the views agree on the type, so both tails are content hashes or both are lists of children
    have hkind : r1.m.kind = r2.m.kind := congrArg MView.kind ev
    refine ⟨ev, fun hf => ?_, fun hd => ?_⟩
    · rw [nodeTail, nodeTail, ← hkind, hf, if_neg (by decide), if_neg (by decide)] at ht
      exact (cborBytes_inj (r := []) (r' := []) c1 c2 (by simpa using List.append_cancel_left ht)).1
    · rw [nodeTail, nodeTail, ← hkind, hd, if_pos rfl, if_pos rfl] at ht
      simp only [List.append_assoc, List.cons_append, List.nil_append] at ht
      exact (specKids_inj H hH k1 k2 fk1 fk2 [] [] (List.cons.inj (List.append_cancel_left ht)).2).1
/-- The children are read off the front up to the break: a contribution begins with a byte-string head, which is not the
    break byte (`cborBytes_ne_break`); hence the `++ cborBreak :: r` on both sides. -/
theorem specKids_inj (H : Bytes → Bytes) (hH : ∀ a b, H a = H b → a = b) :
    ∀ (f1 f2 : Forest), FDF H f1 → FDF H f2 → ∀ (r1 r2 : Bytes),
      specKids H f1 ++ cborBreak :: r1 = specKids H f2 ++ cborBreak :: r2 → FEq f1 f2 ∧ r1 = r2
  | .nil, .nil, _, _, r1, r2, he => ⟨FEq_nil, (List.cons.inj he).2⟩
  | .nil, .cons t2 f2, _, h2, r1, r2, he => by
    obtain ⟨h, hh, hl⟩ := specHash_some_of_FD H t2 (FDF_cons.1 h2).1
    simp only [specKids, hh, List.nil_append, List.append_assoc] at he
    exact absurd he.symm (cborBytes_ne_break hl)
  | .cons t1 f1, .nil, h1, _, r1, r2, he => by
    obtain ⟨h, hh, hl⟩ := specHash_some_of_FD H t1 (FDF_cons.1 h1).1
    simp only [specKids, hh, List.nil_append, List.append_assoc] at he
    exact absurd he (cborBytes_ne_break hl)
  | .cons t1 f1, .cons t2 f2, h1, h2, r1, r2, he => by
    obtain ⟨ht1, hf1⟩ := FDF_cons.1 h1
    obtain ⟨ht2, hf2⟩ := FDF_cons.1 h2
    obtain ⟨x1, hx1, l1⟩ := specHash_some_of_FD H t1 ht1
    obtain ⟨x2, hx2, l2⟩ := specHash_some_of_FD H t2 ht2
    simp only [specKids, hx1, hx2, List.append_assoc] at he
    obtain ⟨ex, he⟩ := cborBytes_inj l1 l2 he
    obtain ⟨ef, er⟩ := specKids_inj H hH f1 f2 hf1 hf2 r1 r2 he
    exact ⟨FEq_cons.2 ⟨specHash_inj H hH t1 t2 ht1 ht2 (by rw [hx1, hx2, ex]), ef⟩, er⟩
end

mutual
theorem FD_of_FD0 (H : Bytes → Bytes) (hlen : ∀ x, (H x).length < 2 ^ 64) : ∀ t, FD0 t → FD H t
  | .node r kids, h => by
    obtain ⟨hb, hc, hk, hf⟩ := h
    refine ⟨hb, hc, hk, fun x hx => ?_, FDF_of_FDF0 H hlen kids hf⟩
    rw [specHash_fd H kids hk, Option.some.injEq] at hx
    rw [← hx]
    exact hlen _
theorem FDF_of_FDF0 (H : Bytes → Bytes) (hlen : ∀ x, (H x).length < 2 ^ 64) : ∀ f, FDF0 f → FDF H f
  | .nil, _ => trivial
  | .cons t f, h => FDF_cons.2 ⟨FD_of_FD0 H hlen t h.1, FDF_of_FDF0 H hlen f h.2⟩
end

/-- **Collision reduction**: for any hash function with bounded output (SHA-384: 48 bytes), two file/directory
    trees with the same tree hash have the same hashed content — or `H` has a collision. -/
theorem specHash_inj_or_collision (H : Bytes → Bytes) (hlen : ∀ x, (H x).length < 2 ^ 64) (t1 t2 : Tree)
    (h1 : FD0 t1) (h2 : FD0 t2) (he : specHash H t1 = specHash H t2) :
    TEq t1 t2 ∨ ∃ a b, a ≠ b ∧ H a = H b := by
  by_cases hc : ∃ a b, a ≠ b ∧ H a = H b
  · exact Or.inr hc
  · left
    have hH : ∀ a b, H a = H b → a = b := fun a b hab => Classical.byContradiction fun e => hc ⟨a, b, e, hab⟩
    exact specHash_inj H hH t1 t2 (FD_of_FD0 H hlen t1 h1) (FD_of_FD0 H hlen t2 h2) he

end Rio
