import Rio.Basic
/-! `hasPrefix` is `<+:`; where `lastIndexOf` points. -/
namespace Rio

@[simp] theorem hasPrefix_iff {s p : Bytes} : hasPrefix s p = true ↔ p <+: s := by
  induction p generalizing s with
  | nil => simp [hasPrefix]
  | cons y ys ih =>
    cases s with
    | nil => simp [hasPrefix]
    | cons x xs =>
      rw [hasPrefix, Bool.and_eq_true, beq_iff_eq, ih, List.cons_prefix_cons, eq_comm]

@[simp] theorem hasPrefix_eq_false {s p : Bytes} : hasPrefix s p = false ↔ ¬ p <+: s := by
  rw [← hasPrefix_iff, Bool.not_eq_true]

theorem u8_ofNat_mod (v : Nat) : (UInt8.ofNat (v % 256)).toNat = v % 256 := by
  simp [UInt8.toNat_ofNat']

theorem lastIndexOf_bounds (c : UInt8) (s : Bytes) : -1 ≤ lastIndexOf c s ∧ lastIndexOf c s < s.length := by
  induction s with
  | nil => simp [lastIndexOf]
  | cons x xs ih =>
    simp only [lastIndexOf, List.length_cons]
    omega

theorem lastIndexOf_ge (c : UInt8) (s : Bytes) : -1 ≤ lastIndexOf c s :=
  (lastIndexOf_bounds c s).1

theorem lastIndexOf_lt (c : UInt8) (s : Bytes) : lastIndexOf c s < s.length :=
  (lastIndexOf_bounds c s).2

theorem lastIndexOf_neg_iff (c : UInt8) (s : Bytes) : lastIndexOf c s = -1 ↔ c ∉ s := by
  induction s with
  | nil => simp [lastIndexOf]
  | cons x xs ih =>
    have h1 := lastIndexOf_ge c xs
    rw [List.mem_cons, not_or, ← ih]
    simp only [lastIndexOf]
    by_cases hx : x = c
    · simp only [hx, not_true, false_and, iff_false, if_true]
      split <;> omega
    · simp only [hx, Ne.symm hx, not_false_iff, true_and, if_false]
      split <;> omega

theorem lastIndexOf_append_sep (c : UInt8) (a b : Bytes) :
    lastIndexOf c (a ++ c :: b) = (a.length : Int) + lastIndexOf c b + 1 := by
  induction a with
  | nil =>
    have := lastIndexOf_ge c b
    simp only [List.nil_append, lastIndexOf, List.length_nil, if_true]
    omega
  | cons x xs ih =>
    have := lastIndexOf_ge c b
    simp only [List.cons_append, lastIndexOf, ih, List.length_cons]
    omega

end Rio
