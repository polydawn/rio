import Rio.Model.Meta
import Rio.Model.Errors
/-!
# Reasoning about the model's `if` chains without splitting them

The Go code mutates a struct rule by rule (`if cond { fmeta.Uid = … }`); the model writes that as a chain of
`if c then { m with f := v } else m`.  Case analysis on such a chain doubles the work with every rule.  The lemmas here
move each `if` into the field it concerns, so that a chain becomes one structure literal with a conditional per field.

The unpack loops are chains of another kind: most branches return an error.  `Outcome.Sat` with `sat_ite`,
`sat_ite_err` and `Sat.elim` walks down such a chain and leaves only the branches that go on.
-/
namespace Rio

theorem ite_ne {α : Sort _} {c : Prop} [Decidable c] {a b x : α} (ha : a ≠ x) (hb : b ≠ x) :
    (if c then a else b) ≠ x := by
  split <;> assumption

theorem ite_or_same {α : Type} (A B : Prop) [Decidable A] [Decidable B] (x y : α) :
    (if A then x else if B then x else y) = (if A ∨ B then x else y) := by
  by_cases ha : A <;> by_cases hb : B <;> simp [ha, hb]

namespace Meta
variable (c d : Prop) [Decidable c] [Decidable d] (m : Meta)

/- Use these with `simp only [↓…]`: visited outside-in, `m` is still the unreduced inner chain and the left-hand sides
   match.  Inside-out, `simp` first reduces the projections of the inner literal, `{ ?m with uid := v }` then unifies
   `?m` with the wrong entry and the rewrite fails. -/

theorem ite_uid (v : Nat) : (if c then { m with uid := v } else m) = { m with uid := if c then v else m.uid } := by
  split <;> rfl

theorem ite_gid (v : Nat) : (if c then { m with gid := v } else m) = { m with gid := if c then v else m.gid } := by
  split <;> rfl

theorem ite_mtime (v : Time) :
    (if c then { m with mtime := v } else m) = { m with mtime := if c then v else m.mtime } := by
  split <;> rfl

theorem ite_perms (v : Nat) :
    (if c then { m with perms := v } else m) = { m with perms := if c then v else m.perms } := by
  split <;> rfl

theorem ite_kind (v : Kind) : (if c then { m with kind := v } else m) = { m with kind := if c then v else m.kind } := by
  split <;> rfl

theorem ite_ite_uid (a b : Nat) :
    (if c then { m with uid := a } else if d then { m with uid := b } else m) =
      { m with uid := if c then a else if d then b else m.uid } := by
  by_cases hc : c
  · rw [if_pos hc, if_pos hc]
  · rw [if_neg hc, if_neg hc, ite_uid]

theorem ite_ite_gid (a b : Nat) :
    (if c then { m with gid := a } else if d then { m with gid := b } else m) =
      { m with gid := if c then a else if d then b else m.gid } := by
  by_cases hc : c
  · rw [if_pos hc, if_pos hc]
  · rw [if_neg hc, if_neg hc, ite_gid]

end Meta

/-- `o` is an error, or `ok a` with `P a`; never a panic.  "Does not panic and keeps the invariant" as one statement,
    so that the error branches of the model, which are most of its branches, are each closed by `trivial`. -/
def Outcome.Sat {α : Type} (P : α → Prop) : Outcome α → Prop
  | .ok a => P a
  | .err _ => True
  | .panic _ => False

namespace Outcome
variable {α : Type} {P : α → Prop}

theorem Sat.ne_panic {o : Outcome α} (h : o.Sat P) (w : String) : o ≠ .panic w := by
  rintro rfl
  exact h

/-- Case analysis on an outcome that satisfies `P`, for goals of the form `(match o with …).Sat Q`: the motive is found
    by abstracting `o`.  (A lemma that concludes `(match o with | .ok a => f a | …).Sat Q` is of no use: its `match`
    compiles to a matcher of its own, which does not unify with the model's.) -/
@[elab_as_elim]
theorem Sat.elim {o : Outcome α} (h : o.Sat P) {motive : Outcome α → Prop}
    (err : ∀ c, motive (.err c)) (ok : ∀ a, P a → motive (.ok a)) : motive o := by
  cases o with
  | ok a => exact ok a h
  | err c => exact err c
  | panic w => exact False.elim h

theorem Sat.mono {o : Outcome α} {P' : α → Prop} (h : o.Sat P) (hp : ∀ a, P a → P' a) : o.Sat P' :=
  h.elim (fun _ => trivial) hp

theorem sat_ite {c : Prop} [Decidable c] {a b : Outcome α} (ha : c → a.Sat P) (hb : ¬ c → b.Sat P) :
    (if c then a else b).Sat P := by
  split
  · exact ha ‹_›
  · exact hb ‹_›

theorem sat_ite_err {c : Prop} [Decidable c] {e : Cat} {o : Outcome α} (h : ¬ c → o.Sat P) :
    (if c then .err e else o).Sat P :=
  sat_ite (fun _ => trivial) h

theorem ite_err_ne_ok {c : Prop} [Decidable c] {e : Cat} {o : Outcome α} {a : α} (h : ¬ c → o ≠ .ok a) :
    (if c then .err e else o) ≠ .ok a := by
  split
  · nofun
  · exact h ‹_›

end Outcome

end Rio
