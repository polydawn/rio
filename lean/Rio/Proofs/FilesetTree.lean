import Rio.Proofs.HashRefine
import Rio.Proofs.PathTheory
/-!
# Real filesets give well-formed trees

A fileset is a tree of entries named by path *components*; the records `AddRecord` files for it carry the names
`MustRelPath` builds (`ofComps` of the component path) and the keys `recordName` derives from them.  This file
shows that those records form a `WFRoot` tree — the hypothesis of `C05_refine` / `C04_impl_inj_or_collision` —
provided components are normal (`Normal`: non-empty, no `/`, not `.` or `..`), only directories have children and
siblings are listed in key order.
-/
namespace Rio

mutual
/-- a fileset as the file system has it ("logical", hence `L`): an entry with its last path component `c`, metadata `m`
    (of which `toTree` replaces the name by the path down to here), content hash `chash`, and the entries below it -/
inductive LTree where
  | node (c : Bytes) (m : Meta) (chash : Bytes) (kids : LForest)
inductive LForest where
  | nil
  | cons (t : LTree) (f : LForest)
end

/-- the bucket key of the entry at component path `cs` -/
def keyOf (cs : List Bytes) (isDir : Bool) : Bytes :=
  if isDir then (ofComps cs).str ++ [slash] else (ofComps cs).str

mutual
/-- the records of a logical tree below the component path `pre` -/
def toTree (pre : List Bytes) : LTree → Tree
  | .node c m ch kids =>
    .node (mkRecord { m with name := ofComps (pre ++ [c]) } ch) (toForest (pre ++ [c]) kids)
def toForest (pre : List Bytes) : LForest → Forest
  | .nil => .nil
  | .cons t f => .cons (toTree pre t) (toForest pre f)
end

def LTree.comp : LTree → Bytes
  | .node c _ _ _ => c
def LTree.isDir : LTree → Bool
  | .node _ m _ _ => decide (m.kind = .dir)
/-- sibling sort key: the component, with a trailing `/` for directories -/
def LTree.skey : LTree → Bytes
  | .node c m _ _ => if m.kind = .dir then c ++ [slash] else c
def LForest.skeys : LForest → List Bytes
  | .nil => []
  | .cons t f => t.skey :: f.skeys

mutual
/-- components normal, only directories have children, siblings strictly increasing by sort key -/
def LWF : LTree → Prop
  | .node c m _ kids => Normal c ∧ (m.kind ≠ .dir → kids = .nil) ∧ LWFF kids
def LWFF : LForest → Prop
  | .nil => True
  | .cons t f => LWF t ∧ LWFF f ∧ ∀ k ∈ f.skeys, bytesLt t.skey k = true
end

theorem keyOf_child {pre : List Bytes} {c : Bytes} (hpre : ∀ x ∈ pre, Normal x) (hc : Normal c) (isDir : Bool) :
    keyOf (pre ++ [c]) isDir = keyOf pre true ++ c ++ (if isDir then [slash] else []) := by
  have hs := str_ofComps_normal (normal_snoc hpre hc) (by simp)
  have hp : keyOf pre true ++ c = (ofComps (pre ++ [c])).str := by
    rw [hs]
    by_cases h0 : pre = []
    · subst h0
      rfl
    · simp [keyOf, str_ofComps_normal hpre h0, joinWith_append slash pre [c] h0 (by simp), joinWith]
  rw [hp]
  cases isDir <;> simp [keyOf]

theorem name_mkRecord (cs : List Bytes) (m : Meta) (ch : Bytes) :
    (mkRecord { m with name := ofComps cs } ch).name = keyOf cs (decide (m.kind = .dir)) := by
  by_cases hd : m.kind = .dir <;> simp [mkRecord, recordName, keyOf, hd]

/-- the record `toTree` files for a node: its key is the key of the directory followed by the node's sort key; for a
    directory it is also the key its own children are filed below -/
theorem key_node {pre : List Bytes} (c : Bytes) (m : Meta) (ch : Bytes) (kids : LForest)
    (hpre : ∀ x ∈ pre, Normal x) (hc : Normal c) :
    (mkRecord { m with name := ofComps (pre ++ [c]) } ch).name = keyOf pre true ++ (LTree.node c m ch kids).skey ∧
    (m.kind = .dir → (mkRecord { m with name := ofComps (pre ++ [c]) } ch).name = keyOf (pre ++ [c]) true) := by
  have e := name_mkRecord (pre ++ [c]) m ch
  refine ⟨?_, fun hd => by rw [e, decide_eq_true hd]⟩
  rw [e, keyOf_child hpre hc]
  by_cases hd : m.kind = .dir <;> simp [LTree.skey, hd]

-- (Proofs by recursion over `LTree` / `LForest`, here and in ListingOfTree and PathsUnique, match on the tree alone and
-- introduce the other arguments by hand, and they use `LWF (.node …)`, `flatten (toTree …)` and the like as what they
-- unfold to, without `unfold`: matching on every argument doubles what the recursion costs to compile, and unfolding
-- makes Lean prove the equations of each function first.)
mutual
theorem toTree_wf : ∀ (t : LTree) (pre : List Bytes), (∀ x ∈ pre, Normal x) → LWF t →
    WFT (keyOf pre true) (toTree pre t) ∧ (toTree pre t).key = keyOf pre true ++ t.skey
  | .node c m ch kids => by
    intro pre hpre hwf
    obtain ⟨hc, hnk, hkids⟩ := hwf
    obtain ⟨hk, hkd⟩ := key_node c m ch kids hpre hc
    refine ⟨?_, hk⟩
    have hne : c ≠ [] := hc.1
    have hslash : slash ∉ c := hc.2.2.2
    by_cases hd : m.kind = .dir
    · rw [LTree.skey, if_pos hd, ← List.append_assoc] at hk
      refine .dir hne hslash hd hk ?_
      rw [hkd hd]
      exact toForest_wf kids (pre ++ [c]) (normal_snoc hpre hc) hkids
    · rw [LTree.skey, if_neg hd] at hk
      rw [hnk hd]
      exact .leaf hne hslash hd hk
theorem toForest_wf : ∀ (f : LForest) (pre : List Bytes), (∀ x ∈ pre, Normal x) → LWFF f →
    WFF (keyOf pre true) (toForest pre f)
  | .nil => fun _ _ _ => WFF_nil
  | .cons t f => by
    intro pre hpre hwf
    obtain ⟨ht, hf, hs⟩ := hwf
    refine WFF_cons.2 ⟨(toTree_wf t pre hpre ht).1, toForest_wf f pre hpre hf, fun k hk => ?_⟩
    obtain ⟨sk, hsk, rfl⟩ := rootKeys_toForest f pre hpre hf k hk
    rw [(toTree_wf t pre hpre ht).2]
    -- sibling keys are the directory's key followed by the sort keys, so the order `LWFF` asks is the one `WFF` asks
    exact bytesLt_iff.2 (List.append_left_lt (bytesLt_iff.1 (hs sk hsk)))
theorem rootKeys_toForest : ∀ (f : LForest) (pre : List Bytes), (∀ x ∈ pre, Normal x) → LWFF f →
    ∀ k ∈ rootKeys (toForest pre f), ∃ sk ∈ f.skeys, k = keyOf pre true ++ sk
  | .nil => fun _ _ _ _ h => nomatch h
  | .cons t f => by
    intro pre hpre hwf k hk
    rcases List.mem_cons.1 hk with rfl | hk
    · exact ⟨t.skey, List.mem_cons_self, (toTree_wf t pre hpre hwf.1).2⟩
    · obtain ⟨sk, hsk, e⟩ := rootKeys_toForest f pre hpre hwf.2.1 k hk
      exact ⟨sk, List.mem_cons_of_mem _ hsk, e⟩
end

/-- the records of a whole fileset: root metadata `m` (content hash `ch` if the root is a file) and the entries below -/
def toRoot (m : Meta) (ch : Bytes) (kids : LForest) : Tree :=
  .node (mkRecord { m with name := ofComps [] } ch) (toForest [] kids)

theorem toRoot_wf (m : Meta) (ch : Bytes) (kids : LForest)
    (h : (m.kind = .dir ∧ LWFF kids) ∨ (m.kind ≠ .dir ∧ kids = .nil)) : WFRoot (toRoot m ch kids) := by
  unfold toRoot WFRoot
  refine ⟨rfl, ?_⟩
  rcases h with ⟨hd, hk⟩ | ⟨hd, hk⟩
  · have hkey : (mkRecord { m with name := ofComps [] } ch).name = keyOf [] true := by
      rw [name_mkRecord, decide_eq_true hd]
    exact Or.inl ⟨hd, hkey, hkey ▸ toForest_wf kids [] nofun hk⟩
  · exact Or.inr ⟨hd, hk ▸ rfl⟩

theorem lwff_of_shape {m : Meta} {kids : LForest} (h : (m.kind = .dir ∧ LWFF kids) ∨ (m.kind ≠ .dir ∧ kids = .nil)) :
    LWFF kids := by
  rcases h with ⟨_, h⟩ | ⟨_, rfl⟩
  · exact h
  · exact trivial

mutual
theorem flatten_names_ok : ∀ (t : LTree) (pre : List Bytes), ∀ r ∈ flatten (toTree pre t), r.name = recordName r.m
  | .node c m ch kids => by
    intro pre r hr
    rcases List.mem_cons.1 hr with rfl | hr
    · rfl
    · exact flattenF_names_ok kids (pre ++ [c]) r hr
theorem flattenF_names_ok : ∀ (f : LForest) (pre : List Bytes), ∀ r ∈ flattenF (toForest pre f), r.name = recordName r.m
  | .nil => fun _ _ h => nomatch h
  | .cons t f => by
    intro pre r hr
    rcases List.mem_append.1 hr with hr | hr
    · exact flatten_names_ok t pre r hr
    · exact flattenF_names_ok f pre r hr
end

theorem flatten_root_names_ok (m : Meta) (ch : Bytes) (kids : LForest) :
    ∀ r ∈ flatten (toRoot m ch kids), r.name = recordName r.m :=
  List.forall_mem_cons.2 ⟨rfl, flattenF_names_ok kids []⟩

end Rio
