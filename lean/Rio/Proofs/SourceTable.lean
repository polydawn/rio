import Rio.Generated.Facts
/-!
# The table of source digests: what the twenty source ties share

`Generated.modelledFuncs` is keyed by function name.  Once the names are known to be pairwise distinct, "the rows
whose name is in `S` are exactly `E`" needs only that `E` is a sublist of the table (`filter_keys_of_sublist`), and a
sublist is exhibited by the positions of its rows (`sublist_of_rows`): each tie then reads its rows off the table by
position, by `rfl`, and no row is compared with any name.  String comparison is what such a tie costs the kernel
otherwise (a literal is unfolded to its UTF-8 bytes, every time); positions move only when the list of modelled
functions in `translate/` changes, and `bin/pin_sources` then prints them anew.
-/
namespace Rio

theorem filter_keys_of_sublist {α β : Type} [DecidableEq α] {T E : List (α × β)} {S : List α}
    (hT : (T.map Prod.fst).Nodup) (hS : S = E.map Prod.fst) (hE : E.Sublist T) :
    T.filter (fun p => S.contains p.1) = E := by
  subst hS
  induction hE with
  | slnil => rfl
  | @cons E T p h ih =>
    obtain ⟨hp, hT⟩ := List.nodup_cons.1 hT
    have : p.1 ∉ E.map Prod.fst := fun hm => hp ((h.map _).subset hm)
    rw [List.filter_cons, if_neg (mt List.contains_iff_mem.1 this)]
    exact ih hT
  | @cons_cons E T p h ih =>
    obtain ⟨hp, hT⟩ := List.nodup_cons.1 hT
    have : ∀ q ∈ T, ((p :: E).map Prod.fst).contains q.1 = (E.map Prod.fst).contains q.1 := by
      intro q hq
      have : q.1 ≠ p.1 := fun e => hp (e ▸ List.mem_map_of_mem hq)
      simp [this]
    rw [List.filter_cons, List.filter_congr this, ih hT]
    simp

theorem sublist_of_rows {α : Type} {T E : List α} {I : List Nat} (hI : I.Pairwise (· < ·))
    (hE : I.map (T[·]?) = E.map some) : E.Sublist T := by
  -- rows at positions `≥ j` lie in `T.drop j`
  suffices ∀ j, (∀ i ∈ I, j ≤ i) → E.Sublist (T.drop j) from this 0 (fun _ _ => Nat.zero_le _)
  induction I generalizing E with
  | nil =>
    obtain rfl : E = [] := List.map_eq_nil_iff.1 hE.symm
    exact fun _ _ => List.nil_sublist _
  | cons i I ih =>
    intro j hj
    cases E with
    | nil => cases hE
    | cons e E =>
      rw [List.map_cons, List.map_cons, List.cons.injEq] at hE
      obtain ⟨hi, hI⟩ := List.pairwise_cons.1 hI
      obtain ⟨h, rfl⟩ := List.getElem?_eq_some_iff.1 hE.1
      have := (ih hI hE.2 (i + 1) hi).cons_cons T[i]
      rw [← List.drop_eq_getElem_cons h] at this
      exact this.trans (List.drop_sublist_drop_left T (hj i List.mem_cons_self))

/-- re-decided against the regenerated table on every run, like the ties that rest on it -/
theorem modelledFuncs_names_nodup : (Generated.modelledFuncs.map Prod.fst).Nodup := by decide +kernel

end Rio
