import Rio.Model.Cbor
import Rio.Proofs.Bytes
/-!
# The CBOR fragment used by the tree hash is uniquely decodable

`decodeHead` inverts `cborHead` (for arguments below 2^64, which is all Go can produce); from that, strings,
byte strings, integers and map headers can be peeled off the front of a stream unambiguously.
-/
namespace Rio

def beVal (bs : Bytes) : Nat := bs.foldl (fun acc b => acc * 256 + b.toNat) 0

theorem beVal_append_single (xs : Bytes) (b : UInt8) : beVal (xs ++ [b]) = beVal xs * 256 + b.toNat := by
  simp [beVal]

theorem beBytes_length (n v : Nat) : (beBytes n v).length = n := by
  induction n generalizing v with
  | zero => rfl
  | succ n ih => simp [beBytes, ih]

theorem beVal_beBytes (n v : Nat) : beVal (beBytes n v) = v % 256 ^ n := by
  induction n generalizing v with
  | zero => simp [beBytes, beVal, Nat.mod_one]
  | succ n ih =>
    rw [beBytes, beVal_append_single, ih]
    rw [u8_ofNat_mod, Nat.pow_succ, Nat.mul_comm (256 ^ n) 256, Nat.mod_mul]
    omega

/-- the major types 0 … 5; the tree hash writes heads of all but the array (its one array head is the raw byte
    `cborIndefArray`) -/
def isMajor (m : UInt8) : Prop := m ∈ [cborMajorUint, cborMajorNegInt, cborMajorBytes, cborMajorString, cborMajorArray, cborMajorMap]

def decodeHead : Bytes → Option (UInt8 × Nat × Bytes)
  | [] => none
  | b :: rest =>
    let major := b &&& 0xe0
    let info := (b &&& 0x1f).toNat
    if info ≤ 0x17 then some (major, info, rest)
    else if info ≤ 0x1b then
      -- additional information 24 … 27: the argument follows in 1, 2, 4 or 8 bytes, big-endian
      let n := 2 ^ (info - 0x18)
      if n ≤ rest.length then some (major, beVal (rest.take n), rest.drop n) else none
    else none

/-- byte-level facts about `major + info`, by exhaustive evaluation over the six majors and 32 infos -/
theorem major_info : ∀ m, isMajor m →
    ∀ i, i < 32 → ((m + UInt8.ofNat i) &&& 0xe0 = m ∧ ((m + UInt8.ofNat i) &&& 0x1f).toNat = i) := by
  unfold isMajor
  decide +kernel

theorem isMajor_uint : isMajor cborMajorUint := by simp [isMajor]
theorem isMajor_negInt : isMajor cborMajorNegInt := by simp [isMajor]
theorem isMajor_bytes : isMajor cborMajorBytes := by simp [isMajor]
theorem isMajor_string : isMajor cborMajorString := by simp [isMajor]
theorem isMajor_map : isMajor cborMajorMap := by simp [isMajor]

/-- the heads whose argument follows in 1, 2, 4 or 8 bytes (additional information 24 + `j`) -/
theorem decodeHead_wide {m : UInt8} (hm : isMajor m) {j : Nat} (hj : j ≤ 3) {v : Nat} (hv : v < 256 ^ 2 ^ j) (rest : Bytes) :
    decodeHead ((m + UInt8.ofNat (0x18 + j)) :: (beBytes (2 ^ j) v ++ rest)) = some (m, v, rest) := by
  obtain ⟨a, b⟩ := major_info m hm (0x18 + j) (by omega)
  have hl := beBytes_length (2 ^ j) v
  have h1 : ¬ 0x18 + j ≤ 0x17 := by omega
  have h2 : 0x18 + j ≤ 0x1b := by omega
  simp only [decodeHead, a, b]
  simp [h1, h2, hl, List.take_left' hl, List.drop_left' hl, beVal_beBytes, Nat.mod_eq_of_lt hv]

theorem decodeHead_cborHead (m : UInt8) (hm : isMajor m) (v : Nat) (hv : v < 2 ^ 64) (rest : Bytes) :
    decodeHead (cborHead m v ++ rest) = some (m, v, rest) := by
  unfold cborHead
  by_cases h1 : v ≤ 0x17
  · obtain ⟨a, b⟩ := major_info m hm v (by omega)
    simp [h1, decodeHead, a, b]
  · by_cases h2 : v ≤ 0xff
    · have hb : [UInt8.ofNat v] = beBytes 1 v := by
        simp [beBytes, Nat.mod_eq_of_lt (Nat.lt_succ_of_le h2)]
      simp only [h1, h2, if_false, if_true, hb]
      -- the bound `256 ^ 2 ^ j` of `decodeHead_wide` evaluates to 0xff + 1, 0xffff + 1, …, 2 ^ 64
      exact decodeHead_wide hm (j := 0) (by decide) (Nat.lt_succ_of_le h2) rest
    · by_cases h3 : v ≤ 0xffff
      · simp only [h1, h2, h3, if_false, if_true]
        exact decodeHead_wide hm (j := 1) (by decide) (Nat.lt_succ_of_le h3) rest
      · by_cases h4 : v ≤ 0xffffffff
        · simp only [h1, h2, h3, h4, if_false, if_true]
          exact decodeHead_wide hm (j := 2) (by decide) (Nat.lt_succ_of_le h4) rest
        · simp only [h1, h2, h3, h4, if_false]
          exact decodeHead_wide hm (j := 3) (by decide) hv rest

theorem cborHead_inj {m m' : UInt8} (hm : isMajor m) (hm' : isMajor m') {v v' : Nat} (hv : v < 2 ^ 64) (hv' : v' < 2 ^ 64)
    {r r' : Bytes} (h : cborHead m v ++ r = cborHead m' v' ++ r') : m = m' ∧ v = v' ∧ r = r' := by
  have h2 := decodeHead_cborHead m' hm' v' hv' r'
  rw [← h, decodeHead_cborHead m hm v hv r] at h2
  simpa using h2

/-- a head that announces the length of the payload following it (text and byte strings) -/
theorem cborItem_inj {m : UInt8} (hm : isMajor m) {a b r r' : Bytes} (ha : a.length < 2 ^ 64) (hb : b.length < 2 ^ 64)
    (h : cborHead m a.length ++ a ++ r = cborHead m b.length ++ b ++ r') : a = b ∧ r = r' := by
  rw [List.append_assoc, List.append_assoc] at h
  obtain ⟨_, hl, hr⟩ := cborHead_inj hm hm ha hb h
  exact List.append_inj hr hl

theorem cborStr_inj {a b r r' : Bytes} (ha : a.length < 2 ^ 64) (hb : b.length < 2 ^ 64)
    (h : cborStr a ++ r = cborStr b ++ r') : a = b ∧ r = r' :=
  cborItem_inj isMajor_string ha hb h

theorem cborBytes_inj {a b r r' : Bytes} (ha : a.length < 2 ^ 64) (hb : b.length < 2 ^ 64)
    (h : cborBytes a ++ r = cborBytes b ++ r') : a = b ∧ r = r' :=
  cborItem_inj isMajor_bytes ha hb h

/-- a byte string is not the break: the break byte is no head -/
theorem cborBytes_ne_break {h r r' : Bytes} (hl : h.length < 2 ^ 64) : cborBytes h ++ r ≠ cborBreak :: r' := by
  intro e
  have h1 := decodeHead_cborHead cborMajorBytes isMajor_bytes h.length hl (h ++ r)
  rw [← List.append_assoc, show cborHead cborMajorBytes h.length ++ h = cborBytes h from rfl, e] at h1
  simp [decodeHead, cborBreak] at h1

theorem cborMap_inj {n n' : Nat} {r r' : Bytes} (hn : n < 2 ^ 64) (hn' : n' < 2 ^ 64)
    (h : cborMap n ++ r = cborMap n' ++ r') : n = n' ∧ r = r' :=
  (cborHead_inj isMajor_map isMajor_map hn hn' h).2

/-- int64 range -/
def I64 (v : Int) : Prop := -(2 : Int) ^ 63 ≤ v ∧ v < (2 : Int) ^ 63

/-- `encodeInt64` writes `Int`'s own two cases: a natural number under the unsigned major, `-1 - n` as `n` under
    the negative one -/
theorem cborInt_ofNat (n : Nat) : cborInt n = cborHead cborMajorUint n := by
  simp [cborInt]

theorem cborInt_negSucc (n : Nat) : cborInt (Int.negSucc n) = cborHead cborMajorNegInt n := by
  have : (-1 - Int.negSucc n).toNat = n := by omega
  simp [cborInt, this]

theorem cborInt_inj {a b : Int} {r r' : Bytes} (ha : I64 a) (hb : I64 b)
    (h : cborInt a ++ r = cborInt b ++ r') : a = b ∧ r = r' := by
  unfold I64 at ha hb
  cases a <;> cases b <;> simp only [Int.ofNat_eq_natCast, cborInt_ofNat, cborInt_negSucc] at ha hb h
  · obtain ⟨_, e, er⟩ := cborHead_inj isMajor_uint isMajor_uint (by omega) (by omega) h
    exact ⟨by rw [e], er⟩
  · exact absurd (cborHead_inj isMajor_uint isMajor_negInt (by omega) (by omega) h).1 (by decide)
  · exact absurd (cborHead_inj isMajor_negInt isMajor_uint (by omega) (by omega) h).1 (by decide)
  · obtain ⟨_, e, er⟩ := cborHead_inj isMajor_negInt isMajor_negInt (by omega) (by omega) h
    exact ⟨by rw [e], er⟩

end Rio
