import Rio.Spec.TreeHash
import Rio.Proofs.Bytes
import Rio.Proofs.Sort
import Rio.Proofs.HashOrder
/-!
# Refinement: the `HashBucket` stack machine computes the recursive tree hash

`scan` (Rio/Model/Hash.lean) models the iterator/visitor control flow of `fshash.HashBucket`: frames are
popped lazily, when the *next* record arrives, and frames of non-directories may linger on the stack for
as long as their name is a prefix of the following names (`./etc/trick` / `./etc/tricky` in rio's test fixture
`FixtureGamma`).  `specHash` (Rio/Spec/TreeHash.lean) is the three-line recursive format.  This file proves that on
well-formed trees (`WFRoot`; below a directory `WFT` / `WFF`) the machine computes the specification, for every hash
function `H`.

Method: an *eager* variant `scanE` of the machine (frames are settled for the upcoming record right after
each visit), shown equal to `scan`; then mutual structural recursion over `Tree`/`Forest`.  While the children
of a directory `P` are walked the state is `stOf L P …`: the frames `L` of non-directory children that linger,
on top of the frame of `P`.  Two statements say what the machine does from there: `scanE_child` when the
upcoming record is a child of `P`, `settle_close` when the upcoming name is not below `P`; `scanT` and `scanF` put
them together along a subtree and along the children of a directory.  The hypothesis on `L` has one shape throughout: frames of
non-directories named `P ++ c'`, none of them a key still to come (the next key; for `scanF` every root key of the forest).
-/
namespace Rio

def nextName : List Record → Option Bytes
  | [] => none
  | r :: _ => some r.name

/-- settle the stack for the upcoming record (`some n`) or for the end of the list (`none`) -/
def settle (H : Bytes → Bytes) : Option Bytes → St → St
  | some n, s => popWhile H n s.frames s.accs s.fin
  | none, s => ⟨[], [], closeAll H s.frames s.accs s.fin⟩

def scanE (H : Bytes → Bytes) : List Record → Bytes → St → Except Panic Bytes
  | [], _, s => .ok s.fin
  | r :: rs, prev, s =>
    match s.frames with
    | [] => .error .countMismatch
    | top :: _ =>
      if prev = r.name then .error .repeatedPath
      else if top.name.length + 1 > r.name.length then .error .sliceBounds
      else if missingTree r.name top.name then .error .missingTree
      else scanE H rs r.name (settle H (nextName rs) (visit H r s))

theorem scan_eq_scanE (H : Bytes → Bytes) : ∀ (rs : List Record) (prev : Bytes) (s : St),
    scan H rs prev s = scanE H rs prev (settle H (nextName rs) s) := by
  intro rs
  induction rs with
  | nil => exact fun _ _ => rfl
  | cons r rs ih =>
    intro prev s
    rw [scan, ih r.name]
    rfl

/-- "`name` is not a prefix of the upcoming name" (vacuous at the end of the list), with `hasPrefix … = false` as
    `popWhile` tests it, so that `settle_pop` can use it as it stands -/
def NoPfxO (nx : Option Bytes) (name : Bytes) : Prop :=
  match nx with
  | some y => hasPrefix y name = false
  | none => True

theorem NoPfxO_iff {nx : Option Bytes} {name : Bytes} : NoPfxO nx name ↔ ∀ y ∈ nx, ¬ name <+: y := by
  cases nx <;> simp [NoPfxO]

theorem NoPfxO.append {nx : Option Bytes} {a : Bytes} (b : Bytes) (h : NoPfxO nx a) : NoPfxO nx (a ++ b) :=
  NoPfxO_iff.2 fun y hy hp => NoPfxO_iff.1 h y hy ((List.prefix_append a b).trans hp)

def Tree.key : Tree → Bytes
  | .node r _ => r.name

def Tree.isDir : Tree → Bool
  | .node r _ => decide (r.m.kind = .dir)

def rootKeys : Forest → List Bytes
  | .nil => []
  | .cons t f => t.key :: rootKeys f

mutual
/-- `t` is a well-formed subtree of the directory whose bucket key is `P`: its key is `P ++ c` (plus a trailing `/`
    for a directory) for a non-empty slash-free component `c`; only directories have children; siblings are listed
    in strictly increasing key order -/
def WFT (P : Bytes) : Tree → Prop
  | .node r kids => ∃ c, c ≠ [] ∧ slash ∉ c ∧
      ((r.m.kind = .dir ∧ r.name = P ++ c ++ [slash] ∧ WFF r.name kids) ∨
       (r.m.kind ≠ .dir ∧ r.name = P ++ c ∧ kids = .nil))
def WFF (P : Bytes) : Forest → Prop
  | .nil => True
  | .cons t f => WFT P t ∧ WFF P f ∧ ∀ k ∈ rootKeys f, bytesLt t.key k = true
end

/-- a well-formed fileset tree: the root record carries the root name (`⟨[], 0⟩` is `MustRelPath(".")`); a directory
    root has the bucket key `./` and well-formed children below it; any other root has no children (and its bucket
    key is left open: the root check of `hashBucket` reads `m.name`, and there is no other key to compare it with) -/
def WFRoot : Tree → Prop
  | .node r kids => r.m.name = ⟨[], 0⟩ ∧
      ((r.m.kind = .dir ∧ r.name = [dot, slash] ∧ WFF r.name kids) ∨ (r.m.kind ≠ .dir ∧ kids = .nil))

mutual
/-- the key of the last record of `flatten t`: what `prev` is when `t` has been walked -/
def lastKey : Tree → Bytes
  | .node r kids => lastKeyF kids r.name
/-- the key of the last record of `flattenF f`, and `d` for the empty forest -/
def lastKeyF : Forest → Bytes → Bytes
  | .nil, d => d
  | .cons t f, _ => lastKeyF f (lastKey t)
end

/-- what a child contributes to its parent's `leaves` array -/
def contrib (H : Bytes → Bytes) (t : Tree) : Bytes :=
  match specHash H t with
  | some h => cborBytes h
  | none => []

/-- the frame a finished child leaves on the stack (a non-directory may linger; a directory is closed) -/
def tf (t : Tree) : List Frame := if t.isDir then [] else [⟨t.key, false⟩]

/-- the machine state while the children of the directory with key `P` are being walked -/
def stOf (L : List Frame) (P : Bytes) (fs : List Frame) (acc : Bytes) (accs : List Bytes) (fin : Bytes) : St :=
  ⟨L ++ ⟨P, true⟩ :: fs, acc :: accs, fin⟩

theorem Tree.isDir_iff {r : Record} {kids : Forest} : (Tree.node r kids).isDir = true ↔ r.m.kind = .dir :=
  decide_eq_true_iff

theorem Tree.isDir_eq_false_iff {r : Record} {kids : Forest} : (Tree.node r kids).isDir = false ↔ r.m.kind ≠ .dir :=
  decide_eq_false_iff_not

@[simp] theorem WFF_nil {P : Bytes} : WFF P .nil :=
  trivial

@[simp] theorem WFF_cons {P : Bytes} {t : Tree} {f : Forest} :
    WFF P (.cons t f) ↔ WFT P t ∧ WFF P f ∧ ∀ k ∈ rootKeys f, bytesLt t.key k = true :=
  Iff.rfl

theorem WFT.dir {P c : Bytes} {r : Record} {kids : Forest} (hc : c ≠ []) (hs : slash ∉ c) (hk : r.m.kind = .dir)
    (hn : r.name = P ++ c ++ [slash]) (hf : WFF r.name kids) : WFT P (.node r kids) :=
  ⟨c, hc, hs, .inl ⟨hk, hn, hf⟩⟩

theorem WFT.leaf {P c : Bytes} {r : Record} (hc : c ≠ []) (hs : slash ∉ c) (hk : r.m.kind ≠ .dir)
    (hn : r.name = P ++ c) : WFT P (.node r .nil) :=
  ⟨c, hc, hs, .inr ⟨hk, hn, rfl⟩⟩

theorem WFT.cases {P : Bytes} {r : Record} {kids : Forest} (h : WFT P (.node r kids)) :
    (r.m.kind = .dir ∧ WFF r.name kids) ∨ (r.m.kind ≠ .dir ∧ kids = .nil) := by
  obtain ⟨_, _, _, ⟨hk, _, hf⟩ | ⟨hk, _, hf⟩⟩ := h
  · exact .inl ⟨hk, hf⟩
  · exact .inr ⟨hk, hf⟩

/-- `k` is the bucket key of a child of the directory whose key is `P`: `P` plus one component, with a `/` at most
    at its very end -/
def ChildKey (P k : Bytes) : Prop := ∃ X, k = P ++ X ∧ X ≠ [] ∧ slash ∉ X.dropLast

theorem ChildKey.prefix {P k : Bytes} (h : ChildKey P k) : P <+: k := by
  obtain ⟨X, rfl, _⟩ := h
  exact List.prefix_append P X

theorem ChildKey.ne {P k : Bytes} (h : ChildKey P k) : P ≠ k := by
  obtain ⟨X, rfl, hX, _⟩ := h
  exact fun e => hX (List.append_right_eq_self.1 e.symm)

/-- the two run-time checks of `NextChild` pass for a frame `T` (the parent directory `P`, or a lingering sibling
    `P ++ c'`) that is a proper prefix of the upcoming child key -/
theorem ChildKey.checks {P k T : Bytes} (hk : ChildKey P k) (hT : P <+: T) (hp : T <+: k) (hne : T ≠ k) :
    ¬ (T.length + 1 > k.length) ∧ missingTree k T = false := by
  refine ⟨slice_in_bounds hp hne, ?_⟩
  obtain ⟨X, rfl, -, hX⟩ := hk
  obtain ⟨c', rfl⟩ := hT
  obtain ⟨rem, hrem⟩ := hp
  have hr0 : rem ≠ [] := fun e => hne (by rw [← hrem, e, List.append_nil])
  rw [List.append_assoc] at hrem
  obtain rfl := List.append_cancel_left hrem
  rw [List.dropLast_append_of_ne_nil hr0, List.mem_append, not_or] at hX
  simpa [missingTree] using hX.2

theorem ChildKey.not_dir_prefix {P k c : Bytes} (hk : ChildKey P k) (hne : P ++ c ++ [slash] ≠ k) :
    ¬ P ++ c ++ [slash] <+: k := by
  obtain ⟨X, rfl, -, hX⟩ := hk
  rintro ⟨rem, hrem⟩
  rw [List.append_assoc, List.append_assoc] at hrem
  obtain rfl := List.append_cancel_left hrem
  by_cases hr : rem = []
  · exact hne (by rw [hr, List.append_nil, List.append_assoc])
  · rw [← List.append_assoc c, List.dropLast_append_of_ne_nil hr] at hX
    exact hX (by simp)

theorem WFT.childKey {P : Bytes} {t : Tree} (h : WFT P t) : ChildKey P t.key := by
  obtain ⟨r, kids⟩ := t
  obtain ⟨c, hc0, hcs, ⟨_, hn, _⟩ | ⟨_, hn, _⟩⟩ := h
  · exact ⟨c ++ [slash], by rw [Tree.key, hn, List.append_assoc], by simp, by simpa using hcs⟩
  · exact ⟨c, hn, hc0, fun hm => hcs (List.dropLast_subset c hm)⟩

theorem WFT.not_prefix_sibling {P k : Bytes} {t : Tree} (h : WFT P t) (hd : t.isDir = true) (hk : ChildKey P k)
    (hne : t.key ≠ k) : ¬ t.key <+: k := by
  obtain ⟨r, kids⟩ := t
  obtain ⟨c, _, _, ⟨_, hn, _⟩ | ⟨hnd, _, _⟩⟩ := h
  · rw [Tree.key, hn] at hne ⊢
    exact hk.not_dir_prefix hne
  · exact absurd (Tree.isDir_iff.1 hd) hnd

theorem rootKeys_childKey {P : Bytes} : ∀ {f : Forest}, WFF P f → ∀ k ∈ rootKeys f, ChildKey P k
  | .nil, _, _, hk => nomatch hk
  | .cons _ _, hwf, k, hk =>
    have ⟨ht, hf, _⟩ := WFF_cons.1 hwf
    (List.mem_cons.1 hk).elim (· ▸ ht.childKey) (rootKeys_childKey hf k)

theorem WFF.head_ne {P : Bytes} {f : Forest} (h : WFF P f) (k : Bytes) (hk : (rootKeys f).head? = some k) : P ≠ k := by
  cases f with
  | nil => cases hk
  | cons t f => exact Option.some.inj hk ▸ (WFF_cons.1 h).1.childKey.ne

theorem lastKey_nondir {P : Bytes} {t : Tree} (h : WFT P t) (hd : t.isDir = false) : lastKey t = t.key := by
  obtain ⟨r, kids⟩ := t
  rcases h.cases with ⟨hk, _⟩ | ⟨_, rfl⟩
  · exact absurd hk (Tree.isDir_eq_false_iff.1 hd)
  · rfl

mutual
theorem lastKey_prefix : ∀ (t : Tree) (P : Bytes), WFT P t → t.key <+: lastKey t
  | .node r kids, P, h => by
    rcases h.cases with ⟨_, hk⟩ | ⟨_, rfl⟩
    · exact hasPrefix_iff.1 (lastKeyF_prefix kids r.name r.name hk (hasPrefix_iff.2 (List.prefix_refl _)))
    · exact List.prefix_refl _
theorem lastKeyF_prefix : ∀ (f : Forest) (P d : Bytes), WFF P f → hasPrefix d P = true →
    hasPrefix (lastKeyF f d) P = true
  | .nil, _, _, _, hd => hd
  | .cons t f, P, _, h, _ =>
    have ⟨ht, hf, _⟩ := WFF_cons.1 h
    lastKeyF_prefix f P (lastKey t) hf (hasPrefix_iff.2 (ht.childKey.prefix.trans (lastKey_prefix t P ht)))
end

theorem settle_pop (H : Bytes → Bytes) {nx : Option Bytes} {f : Frame} (fs : List Frame) (accs : List Bytes) (fin : Bytes)
    (hn : NoPfxO nx f.name) :
    settle H nx ⟨f :: fs, accs, fin⟩ = settle H nx ⟨fs, (closeFrame H f accs fin).1, (closeFrame H f accs fin).2⟩ := by
  cases nx with
  | some y =>
    simp only [settle, popWhile, show hasPrefix y f.name = false from hn]
    rfl
  | none => rfl

theorem settle_pop_nondir (H : Bytes → Bytes) {nx : Option Bytes} {f : Frame} (fs : List Frame) (accs : List Bytes)
    (fin : Bytes) (hd : f.isDir = false) (hn : NoPfxO nx f.name) :
    settle H nx ⟨f :: fs, accs, fin⟩ = settle H nx ⟨fs, accs, fin⟩ := by
  rw [settle_pop H fs accs fin hn]
  simp only [closeFrame, hd, Bool.false_eq_true, if_false]

theorem settle_close (H : Bytes → Bytes) {nx : Option Bytes} {P : Bytes} (fs : List Frame) (acc : Bytes)
    (accs : List Bytes) (fin : Bytes) (hnx : NoPfxO nx P) (L : List Frame)
    (hL : ∀ l ∈ L, l.isDir = false ∧ ∃ c', l.name = P ++ c') :
    settle H nx (stOf L P fs acc accs fin) =
      settle H nx ⟨fs, (deliver (H (acc ++ [cborBreak])) accs fin).1, (deliver (H (acc ++ [cborBreak])) accs fin).2⟩ := by
  induction L with
  | nil => exact settle_pop H fs (acc :: accs) fin hnx
  | cons l L ih =>
    obtain ⟨hd, c', hc'⟩ := hL l List.mem_cons_self
    rw [stOf, List.cons_append, settle_pop_nondir H _ _ _ hd (hc' ▸ hnx.append c')]
    exact ih fun x hx => hL x (List.mem_cons_of_mem _ hx)

theorem scanE_top (H : Bytes → Bytes) (r : Record) (rs : List Record) {prev P : Bytes} (top : Frame) (tl : List Frame)
    (accs : List Bytes) (fin : Bytes) (hprev : prev ≠ r.name) (hck : ChildKey P r.name) (hT : P <+: top.name)
    (hp : top.name <+: r.name) (hne : top.name ≠ r.name) :
    scanE H (r :: rs) prev (settle H (some r.name) ⟨top :: tl, accs, fin⟩) =
      scanE H rs r.name (settle H (nextName rs) (visit H r ⟨top :: tl, accs, fin⟩)) := by
  have hchk := hck.checks hT hp hne
  simp [settle, popWhile, hp, scanE, hprev, hchk.1, hchk.2]

theorem scanE_child (H : Bytes → Bytes) (r : Record) (rs : List Record) {prev P : Bytes} (fs : List Frame) (acc : Bytes)
    (accs : List Bytes) (fin : Bytes) (hprev : prev ≠ r.name) (hck : ChildKey P r.name) (L : List Frame)
    (hL : ∀ l ∈ L, l.isDir = false ∧ (∃ c', l.name = P ++ c') ∧ l.name ≠ r.name) :
    ∃ L1, (∀ l ∈ L1, l ∈ L) ∧
      scanE H (r :: rs) prev (settle H (some r.name) (stOf L P fs acc accs fin)) =
        scanE H rs r.name (settle H (nextName rs) (visit H r (stOf L1 P fs acc accs fin))) := by
  induction L with
  | nil => exact ⟨[], fun _ h => (nomatch h), scanE_top H r rs ⟨P, true⟩ fs _ fin hprev hck (List.prefix_refl P) hck.prefix hck.ne⟩
  | cons l L ih =>
    obtain ⟨hd, ⟨c', hc'⟩, hne⟩ := hL l List.mem_cons_self
    by_cases hp : l.name <+: r.name
    · exact ⟨l :: L, fun _ hx => hx, scanE_top H r rs l _ _ fin hprev hck ⟨c', hc'.symm⟩ hp hne⟩
    · obtain ⟨L1, h1, h2⟩ := ih fun x hx => hL x (List.mem_cons_of_mem _ hx)
      refine ⟨L1, fun x hx => List.mem_cons_of_mem _ (h1 x hx), ?_⟩
      rw [stOf, List.cons_append, settle_pop_nondir H (nx := some r.name) _ _ _ hd (hasPrefix_eq_false.2 hp)]
      exact h2

theorem visit_nondir (H : Bytes → Bytes) (r : Record) (s : St) (hk : r.m.kind ≠ .dir) :
    visit H r s = match specHash H (.node r .nil) with
      | some h => ⟨⟨r.name, false⟩ :: s.frames, (deliver h s.accs s.fin).1, (deliver h s.accs s.fin).2⟩
      | none => ⟨⟨r.name, false⟩ :: s.frames, s.accs, s.fin⟩ := by
  cases hkk : r.m.kind <;> first
    | exact absurd hkk hk
    | simp only [visit, specHash, nodeOpen, hkk]

theorem visit_dir (H : Bytes → Bytes) (r : Record) (fr : List Frame) (accs : List Bytes) (fin : Bytes)
    (hk : r.m.kind = .dir) : visit H r ⟨fr, accs, fin⟩ = stOf [] r.name fr (nodeOpen r) accs fin := by
  simp [visit, hk, stOf]

theorem specHash_dir (H : Bytes → Bytes) (r : Record) (kids : Forest) (hk : r.m.kind = .dir) :
    specHash H (.node r kids) = some (H ((nodeOpen r ++ specKids H kids) ++ [cborBreak])) := by
  simp [specHash, hk, nodeOpen]

theorem specKids_cons (H : Bytes → Bytes) (t : Tree) (f : Forest) :
    specKids H (Forest.cons t f) = contrib H t ++ specKids H f :=
  rfl

theorem nextName_flattenF_cons (t : Tree) (f : Forest) (rest : List Record) :
    nextName (flattenF (.cons t f) ++ rest) = some t.key := by
  cases t
  rfl

mutual
/-- One child `t` of the open directory `P`.  From `stOf L P …` settled for `t.key`, the records `flatten t` take the
    machine to `stOf (tf t ++ L1) P …` settled for what follows: `prev` is `lastKey t`, `acc` has grown by
    `contrib H t`, and on the stack are the frame `tf t` of `t` itself and, under it, the part `L1` of `L` that was
    not popped when `t.key` arrived.  The hypothesis on `nextName rest` is for directories only: a directory has no
    frame in `tf t`, so it must have been closed when its last record is done, and `settle` closes it only if the
    upcoming name is not below it; the frame of a non-directory may stay, whatever follows. -/
theorem scanT (H : Bytes → Bytes) : ∀ (t : Tree) (P : Bytes) (L fs : List Frame) (acc : Bytes) (accs : List Bytes)
    (fin : Bytes) (rest : List Record) (prev : Bytes),
    WFT P t →
    (∀ l ∈ L, l.isDir = false ∧ (∃ c', l.name = P ++ c') ∧ l.name ≠ t.key) →
    prev ≠ t.key →
    (t.isDir = true → NoPfxO (nextName rest) t.key) →
    ∃ L1, (∀ l ∈ L1, l ∈ L) ∧
      scanE H (flatten t ++ rest) prev (settle H (some t.key) (stOf L P fs acc accs fin))
      = scanE H rest (lastKey t) (settle H (nextName rest) (stOf (tf t ++ L1) P fs (acc ++ contrib H t) accs fin))
  | .node r kids, P, L, fs, acc, accs, fin, rest, prev, hwf, hL, hprev, hnx => by
    obtain ⟨L1, hL1, hchild⟩ := scanE_child H r (flattenF kids ++ rest) fs acc accs fin hprev hwf.childKey L hL
    refine ⟨L1, hL1, ?_⟩
    rw [flatten, List.cons_append, Tree.key, hchild, stOf]
    rcases hwf.cases with ⟨hk, hkids⟩ | ⟨hk, rfl⟩
    · -- a directory: `scanF` walks the children and closes it
      have hdir : (Tree.node r kids).isDir = true := Tree.isDir_iff.2 hk
      rw [visit_dir H r _ _ _ hk, scanF H kids r.name (L := []) (fs := L1 ++ (⟨P, true⟩ : Frame) :: fs) (acc := nodeOpen r)
        (accs := acc :: accs) (fin := fin) (rest := rest) (prev := r.name) hkids (fun _ h => nomatch h) hkids.head_ne (hnx hdir)]
      simp only [lastKey, tf, hdir, if_true, List.nil_append, deliver, contrib, specHash_dir H r kids hk, stOf]
    · -- anything else: no children
      have hnd : (Tree.node r Forest.nil).isDir = false := Tree.isDir_eq_false_iff.2 hk
      rw [visit_nondir H r _ hk, contrib]
      cases specHash H (.node r .nil) <;> simp [deliver, flattenF, lastKey, lastKeyF, tf, hnd, Tree.key, stOf]

/-- The remaining children `f` of the open directory `P`: `flattenF f`, followed by a name that is not below `P`, closes
    `P`, whose hash `H (acc ++ specKids H f ++ [cborBreak])` is delivered to the frame under it; `prev` ends as `lastKeyF f prev`. -/
theorem scanF (H : Bytes → Bytes) : ∀ (f : Forest) (P : Bytes) (L fs : List Frame) (acc : Bytes) (accs : List Bytes)
    (fin : Bytes) (rest : List Record) (prev : Bytes),
    WFF P f →
    (∀ l ∈ L, l.isDir = false ∧ (∃ c', l.name = P ++ c') ∧ ∀ k ∈ rootKeys f, l.name ≠ k) →
    (∀ k, (rootKeys f).head? = some k → prev ≠ k) →
    NoPfxO (nextName rest) P →
    scanE H (flattenF f ++ rest) prev (settle H (nextName (flattenF f ++ rest)) (stOf L P fs acc accs fin))
      = scanE H rest (lastKeyF f prev) (settle H (nextName rest)
          ⟨fs, (deliver (H (acc ++ specKids H f ++ [cborBreak])) accs fin).1,
            (deliver (H (acc ++ specKids H f ++ [cborBreak])) accs fin).2⟩)
  | .nil, P, L, fs, acc, accs, fin, rest, prev, _, hL, _, hnx => by
    rw [flattenF, List.nil_append, settle_close H fs acc accs fin hnx L fun l hl => ⟨(hL l hl).1, (hL l hl).2.1⟩,
      specKids, List.append_nil, lastKeyF]
  | .cons t f, P, L, fs, acc, accs, fin, rest, prev, hwf, hL, hprev, hnx => by
    obtain ⟨hwt, hwf', hsorted⟩ := WFF_cons.1 hwf
    have hne_t : ∀ k ∈ rootKeys f, t.key ≠ k := fun k hk => bytesLt_ne (hsorted k hk)
    obtain ⟨X, hkx, -⟩ := hwt.childKey
    -- what comes after `t` is the next sibling, or whatever comes after the directory
    have hnxT : t.isDir = true → NoPfxO (nextName (flattenF f ++ rest)) t.key := by
      intro hd
      cases f with
      | nil => exact hkx ▸ hnx.append X
      | cons t2 f2 =>
        rw [nextName_flattenF_cons]
        exact hasPrefix_eq_false.2
          (hwt.not_prefix_sibling hd (WFF_cons.1 hwf').1.childKey (hne_t t2.key List.mem_cons_self))
    obtain ⟨L1, hL1, heqT⟩ := scanT H t P L fs acc accs fin (flattenF f ++ rest) prev hwt
      (fun l hl => ⟨(hL l hl).1, (hL l hl).2.1, (hL l hl).2.2 t.key List.mem_cons_self⟩)
      (hprev t.key rfl) hnxT
    rw [nextName_flattenF_cons, flattenF, List.append_assoc, heqT]
    have hL2 : ∀ l ∈ tf t ++ L1, l.isDir = false ∧ (∃ c', l.name = P ++ c') ∧ ∀ k ∈ rootKeys f, l.name ≠ k := by
      intro l hl
      rcases List.mem_append.1 hl with hl | hl
      · obtain ⟨-, rfl⟩ : t.isDir = false ∧ l = ⟨t.key, false⟩ := by simpa [tf] using hl
        exact ⟨rfl, ⟨X, hkx⟩, hne_t⟩
      · have := hL l (hL1 l hl)
        exact ⟨this.1, this.2.1, fun k hk => this.2.2 k (List.mem_cons_of_mem _ hk)⟩
    have hprev2 : ∀ k, (rootKeys f).head? = some k → lastKey t ≠ k := by
      intro k hk e
      have hkm : k ∈ rootKeys f := List.mem_of_mem_head? hk
      cases hd : t.isDir with
      | false => exact hne_t k hkm ((lastKey_nondir hwt hd).symm.trans e)
      | true =>
        -- `t.key` is a prefix of `lastKey t` but not of the sibling key
        exact hwt.not_prefix_sibling hd (rootKeys_childKey hwf' k hkm) (hne_t k hkm) (e ▸ lastKey_prefix t P hwt)
    rw [scanF H f P (tf t ++ L1) fs (acc ++ contrib H t) accs fin rest (lastKey t) hwf' hL2 hprev2 hnx,
      specKids_cons, lastKeyF]
    simp only [List.append_assoc]
end

theorem walkSorted_flatten (H : Bytes → Bytes) : ∀ (t : Tree), WFRoot t → walkSorted H (flatten t) = .ok (specId H t)
  | .node r kids, hwf => by
    rw [flatten, walkSorted, if_neg (not_not_intro hwf.1)]
    obtain ⟨-, ⟨hk, -, hkids⟩ | ⟨hk, rfl⟩⟩ := hwf
    · have heq := scanF H kids r.name (L := []) (fs := []) (acc := nodeOpen r) (accs := []) (fin := []) (rest := [])
        (prev := r.name) hkids (fun _ h => nomatch h) hkids.head_ne trivial
      rw [List.append_nil] at heq
      rw [visit_dir H r _ _ _ hk, scan_eq_scanE, heq, specId, specHash_dir H r kids hk]
      rfl
    · rw [visit_nondir H r _ hk, specId]
      cases specHash H (.node r .nil) <;> rfl

/-! ## the pre-order listing of a well-formed tree is sorted by key -/

/-- `SortedBy (·.name)` (`Srt_iff`), by recursion on the list so that `sortedT` can build it with `⟨_, _⟩` -/
def Srt : List Record → Prop
  | [] => True
  | r :: rs => (∀ x ∈ rs, bytesLt r.name x.name = true) ∧ Srt rs

theorem Srt_iff {l : List Record} : Srt l ↔ SortedBy (·.name) l := by
  induction l with
  | nil => simp [Srt]
  | cons r rs ih => rw [Srt, SortedBy, List.pairwise_cons, ih]

theorem nodup_of_Srt (l : List Record) (h : Srt l) : (l.map (·.name)).Nodup := (Srt_iff.1 h).nodup

-- in this block a `nofun` for `∀ x ∈ [], …` costs ten times what all the rest costs to elaborate; `fun _ h => nomatch h` is free
mutual
theorem sortedT : ∀ (t : Tree) (P : Bytes), WFT P t →
    Srt (flatten t) ∧ ∀ x ∈ flatten t, ∃ u, x.name = t.key ++ u ∧ (t.isDir = false → u = [])
  | .node r kids, P, hwf => by
    rw [flatten, Tree.key]
    rcases hwf.cases with ⟨hk, hkids⟩ | ⟨hk, rfl⟩
    · obtain ⟨hs, hp⟩ := sortedF kids r.name hkids
      refine ⟨⟨fun x hx => ?_, hs⟩, fun x hx => ?_⟩
      · obtain ⟨u, hu, hu0⟩ := hp x hx
        exact hu ▸ bytesLt_proper_prefix r.name u hu0
      · rcases List.mem_cons.1 hx with rfl | hx
        · exact ⟨[], (List.append_nil _).symm, fun _ => rfl⟩
        · obtain ⟨u, hu, _⟩ := hp x hx
          exact ⟨u, hu, fun hd => absurd hk (Tree.isDir_eq_false_iff.1 hd)⟩
    · rw [flattenF]
      refine ⟨⟨fun _ h => (nomatch h), trivial⟩, fun x hx => ⟨[], ?_, fun _ => rfl⟩⟩
      rw [List.mem_singleton.1 hx, List.append_nil]

theorem sortedF : ∀ (f : Forest) (P : Bytes), WFF P f →
    Srt (flattenF f) ∧ ∀ x ∈ flattenF f, ∃ u, x.name = P ++ u ∧ u ≠ []
  | .nil, _, _ => ⟨trivial, fun _ h => nomatch h⟩
  | .cons t f, P, hwf => by
    obtain ⟨hwt, hwf', hsorted⟩ := WFF_cons.1 hwf
    obtain ⟨hs1, hp1⟩ := sortedT t P hwt
    obtain ⟨hs2, hp2⟩ := sortedF f P hwf'
    obtain ⟨X, hkx, hx0, -⟩ := hwt.childKey
    refine ⟨Srt_iff.2 (List.pairwise_append.2 ⟨Srt_iff.1 hs1, Srt_iff.1 hs2, fun a ha b hb => ?_⟩), fun x hx => ?_⟩
    · obtain ⟨u, hu, hu0⟩ := hp1 a ha
      -- `b` lies in the subtree of a later sibling with key `k`
      obtain ⟨k, hk, v, hv⟩ := memF_key f P hwf' b hb
      have hlt := hsorted k hk
      show bytesLt a.name b.name = true
      rw [hu, hv]
      refine bytesLt_append u v hlt ?_
      cases hd : t.isDir with
      | false => exact .inl (hu0 hd)
      | true => exact .inr (hwt.not_prefix_sibling hd (rootKeys_childKey hwf' k hk) (bytesLt_ne hlt))
    · rcases List.mem_append.1 hx with hx | hx
      · obtain ⟨u, hu, _⟩ := hp1 x hx
        exact ⟨X ++ u, by rw [hu, hkx, List.append_assoc], by simp [hx0]⟩
      · exact hp2 x hx

/-- every record of a well-formed forest lies in the subtree of one of its roots -/
theorem memF_key : ∀ (f : Forest) (P : Bytes), WFF P f → ∀ x ∈ flattenF f, ∃ k ∈ rootKeys f, ∃ v, x.name = k ++ v
  | .nil, _, _ => fun _ h => nomatch h
  | .cons t f, P, hwf => by
    obtain ⟨hwt, hwf', -⟩ := WFF_cons.1 hwf
    intro x hx
    rcases List.mem_append.1 hx with hx | hx
    · obtain ⟨u, hu, _⟩ := (sortedT t P hwt).2 x hx
      exact ⟨t.key, List.mem_cons_self, u, hu⟩
    · obtain ⟨k, hk, v, hv⟩ := memF_key f P hwf' x hx
      exact ⟨k, List.mem_cons_of_mem _ hk, v, hv⟩
end

theorem srt_root : ∀ (t : Tree), WFRoot t → Srt (flatten t)
  | .node r kids, hwf => by
    obtain ⟨-, ⟨hk, hn, hkids⟩ | ⟨-, rfl⟩⟩ := hwf
    · -- a directory root is a well-formed child `.` of the empty key
      exact (sortedT _ [] (.dir (c := [dot]) (by simp) (by simp [slash, dot]) hk hn hkids)).1
    · simp [flatten, flattenF, Srt]

/-- `HashBucket` returns the specified tree hash for the records of a well-formed tree added in any order (any walk
    order, readdir order or archive entry order): the sorted bucket is the pre-order listing -/
theorem hashBucket_refines (H : Bytes → Bytes) (t : Tree) (hwf : WFRoot t) (recs : List Record)
    (hp : recs.Perm (flatten t)) : hashBucket H recs = .ok (specId H t) := by
  have hs := Srt_iff.1 (srt_root t hwf)
  have hn := (hp.map _).symm.nodup hs.nodup
  rw [hashBucket_of_nodup H hn, sortBy_perm_eq hp hn, sortBy_of_sortedBy hs, walkSorted_flatten H t hwf]

end Rio
