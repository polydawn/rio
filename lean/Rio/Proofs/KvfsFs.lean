import Rio.Model.KvfsFs
import Rio.Proofs.ListAux
/-!
# The kvfs write path over a shared staging namespace: the invariant

If the staging **names** of the writers are pairwise different, then — whatever the open flags, the schedule, the
failing steps and the crashes — every final address holds a complete ware at every instant.  The proof is an
invariant of `fstep`; the two counter-theorems in `Rio/Props/C08Fs.lean` show that name freshness is exactly what
is needed (`O_EXCL` alone does not save colliding names, and without it two writers share one inode).
-/
namespace Rio

/-- between the successful open and the rename: the writer's staging name is bound to the inode of its descriptor
    (`FInv.busy`) -/
def Busy : WPC → Prop
  | .writing _ | .closing | .mkdirs | .moving => True
  | _ => False

/-- the writer may still have its staging name bound: it has opened, and its deferred `Close` has not yet removed the
    name.  A writer that is not `Owning` finds its own name unbound (`FInv.staged_owning`). -/
def Owning (pc : WPC) : Prop := pc ≠ .opening ∧ ∀ r, pc ≠ .done r

/-- how many chunks a busy writer with `n` chunks in all has written: `k` while it is about to write chunk `k`, all
    of them from `.closing` on.  `n` is always `w.chunks.length`. -/
def progressOf (pc : WPC) (n : Nat) : Nat :=
  match pc with
  | .writing k => k
  | _ => n

structure FInv (complete : List (WareId × List Chunk)) (s : FsState) : Prop where
  /-- staged inodes are allocated ones: an inode handed out by a later open is no one's yet -/
  stagingLt : ∀ n j, s.staging n = some j → j < s.nextIno
  /-- what a reader finds at a final address is a complete ware of that address -/
  finalsOk : ∀ k j, s.finals k = some j → j < s.nextIno ∧ ∃ ch, (k, ch) ∈ complete ∧ s.files j = ch.map some
  inj : ∀ n1 n2 j, s.staging n1 = some j → s.staging n2 = some j → n1 = n2
  /-- an inode at a final address has no staging name left, so no writer that still writes (`busy`) has its
      descriptor on it -/
  finNotStaged : ∀ k j n, s.finals k = some j → s.staging n ≠ some j
  /-- the hypothesis of `C08_shared_namespace`, carried along -/
  names : ∀ (i j : Nat) (wi wj : FWriter), s.writers[i]? = some wi → s.writers[j]? = some wj → wi.name = wj.name → i = j
  /-- what `staged_owning` rests on: a writer that is not `Owning` finds its own name unbound -/
  owner : ∀ n j, s.staging n = some j → ∃ (i : Nat) (w : FWriter), s.writers[i]? = some w ∧ w.name = n ∧ Owning w.pc
  /-- a `Busy` writer's name is bound to the inode of its descriptor, that file holds exactly the chunks written so far
      (no hole, nobody else's chunk), and the descriptor's offset is at its end -/
  busy : ∀ (i : Nat) (w : FWriter), s.writers[i]? = some w → Busy w.pc →
    s.staging w.name = some w.ino ∧
    s.files w.ino = (w.chunks.take (progressOf w.pc w.chunks.length)).map some ∧
    w.off = progressOf w.pc w.chunks.length ∧ (∀ k, w.pc = .writing k → k < w.chunks.length)
  /-- what each writer was started with, `(key, chunks)`, is a complete ware -/
  static : ∀ (i : Nat) (w : FWriter), s.writers[i]? = some w → (w.key, w.chunks) ∈ complete

theorem Busy.owning {pc : WPC} (h : Busy pc) : Owning pc := by
  refine ⟨?_, ?_⟩
  · rintro rfl
    exact h
  · rintro r rfl
    exact h

theorem firstPc_spec (w : FWriter) : Busy (firstPc w) ∧ progressOf (firstPc w) w.chunks.length = 0 ∧
    ∀ k, firstPc w = .writing k → k < w.chunks.length := by
  unfold firstPc
  split
  next h0 => exact ⟨trivial, h0, nofun⟩
  next h0 =>
    refine ⟨trivial, rfl, fun k hk => ?_⟩
    cases hk
    exact Nat.pos_of_ne_zero h0

theorem afterChunkF_spec {w : FWriter} {k : Nat} (hk : k < w.chunks.length) :
    Busy (afterChunkF w k) ∧ progressOf (afterChunkF w k) w.chunks.length = k + 1 ∧
    ∀ k', afterChunkF w k = .writing k' → k' < w.chunks.length := by
  unfold afterChunkF
  split
  next h1 =>
    refine ⟨trivial, rfl, fun k' hk' => ?_⟩
    cases hk'
    exact h1
  next h1 => exact ⟨trivial, Nat.le_antisymm (Nat.le_of_not_lt h1) hk, nofun⟩

theorem writeAt_end (l : List Cell) (c : Chunk) : writeAt l l.length c = l ++ [some c] := by
  simp [writeAt]

theorem FInv.staged_owning {cm : List (WareId × List Chunk)} {s : FsState} (h : FInv cm s) {i : Nat} {w : FWriter}
    (hg : s.writers[i]? = some w) {j : Nat} (hs : s.staging w.name = some j) : Owning w.pc := by
  obtain ⟨a, wa, ha, hname, hown⟩ := h.owner _ _ hs
  cases h.names a i wa w ha hg hname
  rw [hg] at ha
  cases ha
  exact hown

/-- **The footprint of a step.**  Writer `i` changes its program counter, inode and offset.  Of the file system it
    changes at most the entry of its own staging name (kept, removed, or bound to a fresh inode), the file that name was
    bound to, fresh inodes, and — by moving its complete staged file there — its own final address.  Every clause of the
    invariant that speaks of another writer, another name or another address is then framed. -/
theorem FInv.of_footprint {cm : List (WareId × List Chunk)} {s : FsState} (h : FInv cm s) {i : Nat} {w : FWriter}
    (hg : s.writers[i]? = some w) {ni : Nat} {fl : Nat → List Cell} {st : Nat → Option Nat} {fn : WareId → Option Nat}
    {pc' : WPC} {ino' off' : Nat}
    (hnext : s.nextIno ≤ ni)
    (hnames : ∀ n, n ≠ w.name → st n = s.staging n)
    (hmine : ∀ j, st w.name = some j → Owning pc' ∧ (s.staging w.name = some j ∨ s.nextIno ≤ j ∧ j < ni))
    (hfiles : ∀ j, j < s.nextIno → s.staging w.name ≠ some j → fl j = s.files j)
    (hfinals : ∀ k j, fn k = some j → s.finals k = some j ∨
      (k = w.key ∧ s.staging w.name = some j ∧ st w.name = none ∧ fl j = w.chunks.map some))
    (hbusy : Busy pc' → st w.name = some ino' ∧
      fl ino' = (w.chunks.take (progressOf pc' w.chunks.length)).map some ∧
      off' = progressOf pc' w.chunks.length ∧ ∀ k, pc' = .writing k → k < w.chunks.length) :
    FInv cm (setFW ⟨ni, fl, st, fn, s.writers⟩ i { w with pc := pc', ino := ino', off := off' }) := by
  have old : ∀ {a : Nat} {x : FWriter}, (s.writers.set i { w with pc := pc', ino := ino', off := off' })[a]? = some x →
      ∃ y, s.writers[a]? = some y ∧ y.name = x.name ∧ y.key = x.key ∧ y.chunks = x.chunks := by
    intro a x hx
    rcases getElem?_set_cases hx with ⟨rfl, rfl⟩ | ⟨_, hx'⟩
    · exact ⟨w, hg, rfl, rfl, rfl⟩
    · exact ⟨x, hx', rfl, rfl, rfl⟩
  have staged : ∀ n j, st n = some j → j < ni ∧ (s.staging n = some j ∨ n = w.name ∧ s.nextIno ≤ j) := by
    intro n j hn
    by_cases e : n = w.name
    · subst e
      rcases (hmine j hn).2 with ho | ⟨h1, h2⟩
      · exact ⟨Nat.lt_of_lt_of_le (h.stagingLt _ _ ho) hnext, Or.inl ho⟩
      · exact ⟨h2, Or.inr ⟨rfl, h1⟩⟩
    · rw [hnames n e] at hn
      exact ⟨Nat.lt_of_lt_of_le (h.stagingLt _ _ hn) hnext, Or.inl hn⟩
  exact {
    stagingLt := fun n j hn => (staged n j hn).1
    finalsOk := by
      intro k j hk
      rcases hfinals k j hk with ho | ⟨rfl, hs, _, hf⟩
      · obtain ⟨hlt, ch, hc, hf⟩ := h.finalsOk k j ho
        exact ⟨Nat.lt_of_lt_of_le hlt hnext, ch, hc, (hfiles j hlt (h.finNotStaged k j _ ho)).trans hf⟩
      · exact ⟨Nat.lt_of_lt_of_le (h.stagingLt _ _ hs) hnext, w.chunks, h.static i w hg, hf⟩
    inj := by
      intro n1 n2 j h1 h2
      rcases (staged n1 j h1).2 with o1 | ⟨e1, f1⟩ <;> rcases (staged n2 j h2).2 with o2 | ⟨e2, f2⟩
      · exact h.inj _ _ _ o1 o2
      · -- `j` cannot be both old (`< s.nextIno`) and fresh
        exact absurd (h.stagingLt _ _ o1) (Nat.not_lt.2 f2)
      · exact absurd (h.stagingLt _ _ o2) (Nat.not_lt.2 f1)
      · rw [e1, e2]
    finNotStaged := by
      intro k j n hk hn
      rcases hfinals k j hk with ho | ⟨_, hs, hnone, _⟩
      · rcases (staged n j hn).2 with o | ⟨_, f⟩
        · exact h.finNotStaged k j n ho o
        · exact absurd (h.finalsOk k j ho).1 (Nat.not_lt.2 f)
      · rcases (staged n j hn).2 with o | ⟨_, f⟩
        · have hn' : st n = some j := hn
          rw [h.inj _ _ _ o hs, hnone] at hn'
          cases hn'
        · exact absurd (h.stagingLt _ _ hs) (Nat.not_lt.2 f)
    names := by
      intro a b xa xb ha hb hn
      obtain ⟨ya, ha', na, _, _⟩ := old ha
      obtain ⟨yb, hb', nb, _, _⟩ := old hb
      exact h.names a b ya yb ha' hb' (by rw [na, nb, hn])
    owner := by
      intro n j hn
      by_cases e : n = w.name
      · subst e
        exact ⟨i, _, getElem?_set_self_of_eq_some hg _, rfl, (hmine j hn).1⟩
      · obtain ⟨a, wa, ha, hna, hown⟩ := h.owner n j ((hnames n e).symm.trans hn)
        have hai : a ≠ i := by
          rintro rfl
          rw [hg] at ha
          cases ha
          exact e hna.symm
        exact ⟨a, wa, (List.getElem?_set_ne (Ne.symm hai)).trans ha, hna, hown⟩
    busy := by
      intro a x hx hb
      rcases getElem?_set_cases hx with ⟨rfl, rfl⟩ | ⟨hai, hx'⟩
      · exact hbusy hb
      · obtain ⟨h1, h2, h3, h4⟩ := h.busy a x hx' hb
        have hne : x.name ≠ w.name := fun e => hai (h.names a i x w hx' hg e)
        exact ⟨(hnames _ hne).trans h1, (hfiles _ (h.stagingLt _ _ h1) (fun e => hne (h.inj _ _ _ h1 e))).trans h2, h3, h4⟩
    static := by
      intro a x hx
      obtain ⟨y, hy, _, hk, hc⟩ := old hx
      rw [← hk, ← hc]
      exact h.static a y hy }

theorem FInv.step_pc {cm : List (WareId × List Chunk)} {s : FsState} (h : FInv cm s) {i : Nat} {w : FWriter}
    (hg : s.writers[i]? = some w) {pc' : WPC} (hown : Owning w.pc → Owning pc')
    (hbusy : Busy pc' → Busy w.pc ∧ progressOf pc' w.chunks.length = progressOf w.pc w.chunks.length ∧
      ∀ k, pc' = .writing k → k < w.chunks.length) :
    FInv cm (setFW s i { w with pc := pc' }) :=
  h.of_footprint hg (ni := s.nextIno) (fl := s.files) (st := s.staging) (fn := s.finals)
    (hnext := Nat.le_refl _)
    (hnames := fun _ _ => rfl)
    (hmine := fun _ hj => ⟨hown (h.staged_owning hg hj), Or.inl hj⟩)
    (hfiles := fun _ _ _ => rfl)
    (hfinals := fun _ _ hk => Or.inl hk)
    (hbusy := fun hb => by
      obtain ⟨hb0, hp, hk⟩ := hbusy hb
      obtain ⟨h1, h2, h3, _⟩ := h.busy i w hg hb0
      exact ⟨h1, hp ▸ h2, hp ▸ h3, hk⟩)

theorem FInv.to_cleanup {cm : List (WareId × List Chunk)} {s : FsState} (h : FInv cm s) {i : Nat} {w : FWriter}
    (hg : s.writers[i]? = some w) (r : Option Cat) : FInv cm (setFW s i { w with pc := .cleanup r }) :=
  h.step_pc hg (hown := fun _ => ⟨nofun, fun _ e => nomatch e⟩) (hbusy := False.elim)

/-- **One step of any writer, with any injected outcome and either open mode, preserves the invariant.** -/
theorem finv_step (cm : List (WareId × List Chunk)) (excl : Bool) (s : FsState) (i : Nat) (f : Fault) (h : FInv cm s) :
    FInv cm (fstep excl s i f) := by
  unfold fstep
  cases hg : s.writers[i]? with
  | none => exact h
  | some w =>
    dsimp only
    cases hpc : w.pc with
    | done r => exact h
    | opening =>
      -- Names are distinct, so before its open the writer finds its own name unbound: neither the `EEXIST` nor the
      -- `O_TRUNC` branch of `fstep` is ever taken, and `excl` plays no role from here on.
      have hun : s.staging w.name = none := by
        cases hs : s.staging w.name with
        | none => rfl
        | some j => exact absurd hpc (h.staged_owning hg hs).1
      cases f with
      | fail => exact h.step_pc hg (hown := fun ho => absurd hpc ho.1) (hbusy := False.elim)
      | ok =>
        rw [hun]
        -- create: a fresh inode under the writer's own name
        obtain ⟨hb, hp, hbound⟩ := firstPc_spec w
        exact h.of_footprint hg
          (hnext := Nat.le_succ _)
          (hnames := fun n hn => upd_other hn)
          (hmine := fun j hj => by
            rw [upd_same] at hj
            cases hj
            exact ⟨hb.owning, Or.inr ⟨Nat.le_refl _, Nat.lt_succ_self _⟩⟩)
          (hfiles := fun j hj _ => upd_other (Nat.ne_of_lt hj))
          (hfinals := fun _ _ hk => Or.inl hk)
          (hbusy := fun _ => by
            refine ⟨upd_same _ _ _, ?_, hp.symm, hbound⟩
            rw [upd_same, hp]
            rfl)
    | writing k =>
      obtain ⟨hst, hfile, hoff, hbound⟩ := h.busy i w hg (by rw [hpc]; trivial)
      have hk : k < w.chunks.length := hbound k hpc
      simp only [hpc, progressOf] at hfile hoff
      dsimp only
      cases hgk : w.chunks[k]? with
      | none => exact absurd hk (Nat.not_lt.2 (List.getElem?_eq_none_iff.1 hgk))
      | some c =>
        cases f with
        | fail => exact h.to_cleanup hg _
        | ok =>
          -- the chunk lands at the end of the writer's own inode
          have hlen : (s.files w.ino).length = w.off := by
            rw [hfile, List.length_map, List.length_take]
            omega
          have hwr : writeAt (s.files w.ino) w.off c = (w.chunks.take (k + 1)).map some := by
            rw [← hlen, writeAt_end, hfile, List.take_add_one, hgk]
            simp
          obtain ⟨hb', hp, hbound'⟩ := afterChunkF_spec hk
          exact h.of_footprint hg
            (hnext := Nat.le_refl _)
            (hnames := fun _ _ => rfl)
            (hmine := fun _ hj => ⟨hb'.owning, Or.inl hj⟩)
            (hfiles := fun j _ hj => upd_other (fun e => hj (e ▸ hst)))
            (hfinals := fun _ _ hk => Or.inl hk)
            (hbusy := fun _ => ⟨hst, by rw [upd_same, hwr, hp], by rw [hp, hoff], hbound'⟩)
    | closing | mkdirs =>
      cases f with
      | fail => exact h.to_cleanup hg _
      | ok =>
        exact h.step_pc hg
          (hown := fun _ => Busy.owning trivial)
          (hbusy := fun _ => ⟨by rw [hpc]; trivial, by rw [hpc]; rfl, nofun⟩)
    | moving =>
      obtain ⟨hst, hfile, _, _⟩ := h.busy i w hg (by rw [hpc]; trivial)
      simp only [hpc, progressOf, List.take_length] at hfile
      cases f with
      | fail => exact h.to_cleanup hg _
      | ok =>
        rw [hst]
        -- rename: the writer's own, complete inode becomes the final address; the name goes away
        exact h.of_footprint hg
          (hnext := Nat.le_refl _)
          (hnames := fun n hn => upd_other hn)
          (hmine := fun j hj => by
            rw [upd_same] at hj
            cases hj)
          (hfiles := fun _ _ _ => rfl)
          (hfinals := fun key j hkj => by
            by_cases e : key = w.key
            · subst e
              rw [upd_same] at hkj
              cases hkj
              exact Or.inr ⟨rfl, hst, upd_same _ _ _, hfile⟩
            · rw [upd_other e] at hkj
              exact Or.inl hkj)
          (hbusy := False.elim)
    | cleanup r =>
      -- remove by name: only this writer's own name can be meant
      exact h.of_footprint hg
        (hnext := Nat.le_refl _)
        (hnames := fun n hn => upd_other hn)
        (hmine := fun j hj => by
          rw [upd_same] at hj
          cases hj)
        (hfiles := fun _ _ _ => rfl)
        (hfinals := fun _ _ hk => Or.inl hk)
        (hbusy := False.elim)

theorem finv_run {cm : List (WareId × List Chunk)} (excl : Bool) (sched : List (Nat × Fault)) {s : FsState}
    (h : FInv cm s) : FInv cm (frun excl s sched) :=
  List.foldlRecOn sched _ h (fun s hs x _ => finv_step cm excl s x.1 x.2 hs)

theorem finv_init {cm : List (WareId × List Chunk)} {ws : List FWriter}
    (hpc : ∀ w ∈ ws, w.pc = .opening) (hc : ∀ w ∈ ws, (w.key, w.chunks) ∈ cm)
    (hn : ∀ (i j : Nat) (wi wj : FWriter), ws[i]? = some wi → ws[j]? = some wj → wi.name = wj.name → i = j) : FInv cm (fsInit ws) :=
  { stagingLt := nofun
    finalsOk := nofun
    inj := nofun
    finNotStaged := nofun
    names := hn
    owner := nofun
    busy := by
      intro i w hi hb
      rw [hpc w (List.mem_of_getElem? hi)] at hb
      exact absurd hb id
    static := fun i w hi => hc w (List.mem_of_getElem? hi) }

end Rio
